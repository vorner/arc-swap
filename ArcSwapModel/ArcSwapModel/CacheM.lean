/-!
# `CacheM`: one `Cache` over an atomic pointer cell, with address reuse and an arbitrary environment

The container is one cell holding (the address of) an object; objects have identities (`Nat`) and
addresses; an address may be given to a new object only when no live object has it.  The cache
under test holds one reference to `cached`.  Everything else that can own references — other
caches, their clones, mapped caches (which wrap a cache), guards, user handles — is the
*environment*: it may take a further reference to any live object and give back what it took.

`Cache::load` is `revalidate(); &self.cached`, and `revalidate` is, as in `src/cache.rs`,

    let cached_ptr = as_ptr(&self.cached);
    let shared_ptr = self.arc_swap.ptr.load(Relaxed);                      -- event `peek`
    if cached_ptr != shared_ptr { self.cached = self.arc_swap.load_full(); }  -- event `finish`

with any number of environment events between the two.  `load_full` is one event here (its own
linearizability is C03; the environment may act before it).
-/

namespace CacheM

def upd {α : Type} (f : Nat → α) (i : Nat) (v : α) : Nat → α := fun j => if j = i then v else f j
@[simp] theorem upd_same {α} (f : Nat → α) (i : Nat) (v : α) : upd f i v i = v := by simp [upd]
@[simp] theorem upd_other {α} (f : Nat → α) (i j : Nat) (v : α) (h : j ≠ i) : upd f i v j = f j := by
  simp [upd, h]

structure State where
  n : Nat                         -- number of objects allocated so far (ids `0 … n-1`)
  addr : Nat → Nat
  owners : Nat → Nat              -- strong count of each object
  cur : Nat                       -- the object the cell holds
  hist : List Nat                 -- ghost: every object ever installed, newest first
  cached : Nat                    -- the object the cache holds a reference to
  pending : Option Bool           -- between `peek` and `finish`: is a reload due?
  lastIdx : Nat                   -- ghost: `hist.length` at the instant the last returned value was current
  others : Nat → Nat              -- references held by the environment
  callStart : Nat                 -- ghost: `hist.length` when the current/last `Cache::load` started

inductive Ev where
  | storeNew (a : Nat)            -- store a freshly allocated object at address `a`
  | storeOld (i : Nat)            -- store again an object the environment still owns
  | envInc (i : Nat)              -- the environment clones a reference to a live object
  | envDec (i : Nat)              -- the environment drops one of its references
  | peek
  | finish
  deriving DecidableEq, Repr

/-- no live object has address `a` -/
def addrFree (s : State) (a : Nat) : Prop := ∀ i, i < s.n → 0 < s.owners i → s.addr i ≠ a

/-- the cell's reference moves from the current object to `i` -/
def install (s : State) (i : Nat) : State :=
  let ow := upd s.owners i (s.owners i + 1)
  { s with owners := upd ow s.cur (ow s.cur - 1), cur := i, hist := i :: s.hist }

/-- the step relation (an event may be disabled; `ret` is what `Cache::load` returns at `finish`) -/
inductive Step : State → Ev → State → Option Nat → Prop
  | storeNew (s : State) (a : Nat) (h : addrFree s a) :
      Step s (.storeNew a)
        (install { s with n := s.n + 1, addr := upd s.addr s.n a, owners := upd s.owners s.n 0 } s.n) none
  | storeOld (s : State) (i : Nat) (hi : i < s.n) (h : 0 < s.others i) :
      Step s (.storeOld i) (install s i) none
  | envInc (s : State) (i : Nat) (hi : i < s.n) (h : 0 < s.owners i) :
      Step s (.envInc i) { s with owners := upd s.owners i (s.owners i + 1), others := upd s.others i (s.others i + 1) } none
  | envDec (s : State) (i : Nat) (hi : i < s.n) (h : 0 < s.others i) :
      Step s (.envDec i) { s with owners := upd s.owners i (s.owners i - 1), others := upd s.others i (s.others i - 1) } none
  | peekSame (s : State) (hp : s.pending = none) (h : s.addr s.cached = s.addr s.cur) :
      Step s .peek { s with pending := some false, lastIdx := s.hist.length, callStart := s.hist.length } none
  | peekDiff (s : State) (hp : s.pending = none) (h : s.addr s.cached ≠ s.addr s.cur) :
      Step s .peek { s with pending := some true, callStart := s.hist.length } none
  | finishSame (s : State) (hp : s.pending = some false) :
      Step s .finish { s with pending := none } (some s.cached)
  | finishReload (s : State) (hp : s.pending = some true) :
      -- `self.cached = load_full()`: a reference to the current object, the old one released
      Step s .finish
        (let ow := upd s.owners s.cur (s.owners s.cur + 1)
         { s with owners := upd ow s.cached (ow s.cached - 1), cached := s.cur, pending := none,
                  lastIdx := s.hist.length })
        (some s.cur)

/-- initial state: one object at address `a0`, stored in the cell; the cache was just created by
    `Cache::new` (a `load_full`) -/
def init (a0 : Nat) : State :=
  { n := 1, addr := fun _ => a0, owners := fun i => if i = 0 then 2 else 0, cur := 0, hist := [0],
    cached := 0, pending := none, lastIdx := 1, others := fun _ => 0, callStart := 1 }

inductive Reachable (a0 : Nat) : State → Prop
  | init : Reachable a0 (init a0)
  | step {s s' e r} : Reachable a0 s → Step s e s' r → Reachable a0 s'

/-- the object that was current when the history had length `k` (`k ≥ 1`) -/
def atLen (hist : List Nat) (k : Nat) : Option Nat := hist[hist.length - k]?

end CacheM

namespace CacheM

/-! ## Executable version (for the correspondence), sound w.r.t. `Step` -/

def addrFreeB (s : State) (a : Nat) : Bool :=
  (List.range s.n).all fun i => s.owners i = 0 || s.addr i ≠ a

theorem addrFreeB_sound (s : State) (a : Nat) (h : addrFreeB s a = true) : addrFree s a := by
  intro i hi ho
  have := List.all_eq_true.mp h i (List.mem_range.mpr hi)
  simp only [Bool.or_eq_true, decide_eq_true_eq] at this
  exact this.resolve_left (by omega)

def exec (s : State) : Ev → Option (State × Option Nat)
  | .storeNew a =>
    if addrFreeB s a then
      some (install { s with n := s.n + 1, addr := upd s.addr s.n a, owners := upd s.owners s.n 0 } s.n, none)
    else none
  | .storeOld i => if i < s.n ∧ 0 < s.others i then some (install s i, none) else none
  | .envInc i =>
    if i < s.n ∧ 0 < s.owners i then
      some ({ s with owners := upd s.owners i (s.owners i + 1), others := upd s.others i (s.others i + 1) }, none)
    else none
  | .envDec i =>
    if i < s.n ∧ 0 < s.others i then
      some ({ s with owners := upd s.owners i (s.owners i - 1), others := upd s.others i (s.others i - 1) }, none)
    else none
  | .peek =>
    match s.pending with
    | some _ => none
    | none =>
      if s.addr s.cached = s.addr s.cur then
        some ({ s with pending := some false, lastIdx := s.hist.length, callStart := s.hist.length }, none)
      else some ({ s with pending := some true, callStart := s.hist.length }, none)
  | .finish =>
    match s.pending with
    | some false => some ({ s with pending := none }, some s.cached)
    | some true =>
      let ow := upd s.owners s.cur (s.owners s.cur + 1)
      some ({ s with owners := upd ow s.cached (ow s.cached - 1), cached := s.cur, pending := none,
                     lastIdx := s.hist.length }, some s.cur)
    | none => none

theorem exec_sound (s s' : State) (e : Ev) (r : Option Nat) (h : exec s e = some (s', r)) : Step s e s' r := by
  cases e with
  | storeNew a =>
    obtain ⟨hf, ⟨⟩⟩ := Option.ite_none_right_eq_some.mp h
    exact .storeNew s a (addrFreeB_sound s a hf)
  | storeOld i =>
    obtain ⟨hf, ⟨⟩⟩ := Option.ite_none_right_eq_some.mp h
    exact .storeOld s i hf.1 hf.2
  | envInc i =>
    obtain ⟨hf, ⟨⟩⟩ := Option.ite_none_right_eq_some.mp h
    exact .envInc s i hf.1 hf.2
  | envDec i =>
    obtain ⟨hf, ⟨⟩⟩ := Option.ite_none_right_eq_some.mp h
    exact .envDec s i hf.1 hf.2
  | peek =>
    simp only [exec] at h
    split at h
    · cases h
    · rename_i hp
      split at h <;> rename_i ha <;> cases h
      · exact .peekSame s hp ha
      · exact .peekDiff s hp ha
  | finish =>
    simp only [exec] at h
    split at h <;> cases h <;> rename_i hp
    · exact .finishSame s hp
    · exact .finishReload s hp
/-- driver: events as text (`new <addr>`, `old <id>`, `inc <id>`, `dec <id>`, `peek`, `finish`);
    one output line per event: what `finish` returned and the strong count of every object -/
def parseEv (l : String) : Option Ev :=
  match (l.splitOn " ").filter (· ≠ "") with
  | ["new", a] => a.toNat?.map Ev.storeNew
  | ["old", i] => i.toNat?.map Ev.storeOld
  | ["inc", i] => i.toNat?.map Ev.envInc
  | ["dec", i] => i.toNat?.map Ev.envDec
  | ["peek"] => some .peek
  | ["finish"] => some .finish
  | _ => none

def render (s : State) (r : Option Nat) : String :=
  let counts := (List.range s.n).map fun i => toString (s.owners i)
  s!"ret={match r with | some x => toString x | none => "-"} cur={s.cur} owners={",".intercalate counts}"

def runLines (a0 : Nat) (lines : List String) : List String :=
  let rec go (s : State) : List String → List String
    | [] => []
    | l :: ls =>
      match parseEv l with
      | none => go s ls
      | some e =>
        match exec s e with
        | some (s', r) => render s' r :: go s' ls
        | none => "disabled" :: go s ls
  go (init a0) lines

end CacheM
