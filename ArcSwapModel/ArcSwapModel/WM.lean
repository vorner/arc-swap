import ArcSwapModel.Extract

/-!
# `WM`: release/acquire views — what an atomic access makes visible

The view-based operational reading of the C11 release/acquire fragment (the one race detectors
and the "promising" semantics without promises use).  A thread has a *view*: the set of plain
(non-atomic) events that happen-before its current point — for us: initialisations of pointees and
accesses made through handles — and, per atomic location, the newest timestamp it is aware of.
Every store leaves a *message* (location, timestamp, value, the view it releases); a load may
read **any** message of the location that is not older than what the thread is already aware of
(stale reads), and learns the message's view only if it is an acquire; a read-modify-write reads
the newest message and its message continues the release sequence (it carries the view of the
message it read, plus the thread's own if it is a release).  Relaxed accesses carry and learn
nothing.  `SeqCst` is treated as `AcqRel` here: the additional total order restricts *which*
message is read, and every theorem below holds for whichever message is read, so it is sound to
ignore it (the total-order part is the business of the machine `M` and of C01, not of publication).

The plain access `e` by thread with view `V` is race-free w.r.t. an earlier conflicting access
`e'` iff `V.ev e'` — the conflicting access happens-before it.
-/

namespace WM
open Extract (Ord)

def isAcq : Ord → Bool
  | .acquire | .acqRel | .seqCst => true
  | _ => false

def isRel : Ord → Bool
  | .release | .acqRel | .seqCst => true
  | _ => false

structure View where
  /-- plain events known to have happened before -/
  ev : Nat → Prop
  /-- per atomic location: newest timestamp the thread is aware of -/
  ts : Nat → Nat

def View.bot : View := ⟨fun _ => False, fun _ => 0⟩

def View.join (a b : View) : View := ⟨fun e => a.ev e ∨ b.ev e, fun l => max (a.ts l) (b.ts l)⟩

def View.le (a b : View) : Prop := (∀ e, a.ev e → b.ev e) ∧ (∀ l, a.ts l ≤ b.ts l)

/-- the thread performs a plain event itself -/
def View.did (v : View) (e : Nat) : View := ⟨fun x => x = e ∨ v.ev x, v.ts⟩

structure Msg where
  loc : Nat
  ts : Nat
  val : Nat
  view : View

/-- a thread with view `V` may read `m`: it is not older than what the thread is aware of -/
def canRead (V : View) (m : Msg) : Prop := V.ts m.loc ≤ m.ts

/-- the thread's view after reading `m` with ordering `o` -/
def afterRead (o : Ord) (V : View) (m : Msg) : View :=
  let V1 : View := ⟨V.ev, fun l => if l = m.loc then max (V.ts l) m.ts else V.ts l⟩
  if isAcq o then V1.join m.view else V1

/-- what a store with ordering `o` releases -/
def released (o : Ord) (V : View) : View := if isRel o then V else View.bot

/-- message left by a plain store of `v` at timestamp `t` (any `t` newer than what the thread is aware of) -/
def storeMsg (o : Ord) (V : View) (loc t v : Nat) : Msg :=
  ⟨loc, t, v, released o ⟨V.ev, fun l => if l = loc then t else V.ts l⟩⟩

/-- message left by a read-modify-write that read `m` (it sits right after `m`): release-sequence
    continuation — it carries `m`'s view whatever its own ordering is -/
def rmwMsg (o : Ord) (V : View) (m : Msg) (v : Nat) : Msg :=
  let V' := afterRead o V m
  ⟨m.loc, m.ts + 1, v, m.view.join (released o ⟨V'.ev, fun l => if l = m.loc then m.ts + 1 else V'.ts l⟩)⟩

/-! ## The general facts -/

theorem le_refl (a : View) : a.le a := ⟨fun _ h => h, fun _ => Nat.le_refl _⟩
theorem le_trans {a b c : View} (h1 : a.le b) (h2 : b.le c) : a.le c :=
  ⟨fun e h => h2.1 e (h1.1 e h), fun l => Nat.le_trans (h1.2 l) (h2.2 l)⟩
theorem le_join_left (a b : View) : a.le (a.join b) := ⟨fun _ h => Or.inl h, fun _ => Nat.le_max_left _ _⟩
theorem le_join_right (a b : View) : b.le (a.join b) := ⟨fun _ h => Or.inr h, fun _ => Nat.le_max_right _ _⟩

/-- reading never loses knowledge -/
theorem afterRead_mono (o : Ord) (V : View) (m : Msg) : V.le (afterRead o V m) := by
  have h1 : V.le ⟨V.ev, fun l => if l = m.loc then max (V.ts l) m.ts else V.ts l⟩ :=
    ⟨fun _ h => h, fun l => by dsimp only; split <;> omega⟩
  unfold afterRead
  split
  · exact le_trans h1 (le_join_left _ _)
  · exact h1

/-- an acquire read learns everything the message carries -/
theorem acquire_learns (o : Ord) (V : View) (m : Msg) (h : isAcq o = true) : m.view.le (afterRead o V m) := by
  unfold afterRead; simp only [h, ↓reduceIte]; exact le_join_right _ _

/-- after a read the thread is aware of the message's timestamp (coherence: it can no longer
    read anything older at that location) -/
theorem afterRead_ts (o : Ord) (V : View) (m : Msg) : m.ts ≤ (afterRead o V m).ts m.loc := by
  unfold afterRead
  split
  · simp only [View.join, ↓reduceIte]; omega
  · simp only [↓reduceIte]; omega

/-- a release store carries the storing thread's whole view, including the store itself -/
theorem release_carries (o : Ord) (V : View) (loc t v : Nat) (h : isRel o = true) (ht : V.ts loc ≤ t) :
    V.le (storeMsg o V loc t v).view ∧ (storeMsg o V loc t v).view.ts loc = t := by
  simp only [storeMsg, released, h, ↓reduceIte, and_true]
  refine ⟨fun _ h => h, fun l => ?_⟩
  dsimp only; split
  · rename_i hl; exact hl ▸ ht
  · exact Nat.le_refl _

/-- a read-modify-write continues the release sequence whatever its ordering -/
theorem rmw_continues (o : Ord) (V : View) (m : Msg) (v : Nat) : m.view.le (rmwMsg o V m v).view := by
  simp only [rmwMsg]; exact le_join_left _ _

/-- a releasing read-modify-write also carries the thread's own view -/
theorem rmw_release_carries (o : Ord) (V : View) (m : Msg) (v : Nat) (h : isRel o = true)
    (hr : canRead V m) : V.le (rmwMsg o V m v).view := by
  have h0 := afterRead_mono o V m
  simp only [rmwMsg, released, h, ↓reduceIte]
  refine le_trans ?_ (le_join_right _ _)
  refine ⟨h0.1, fun l => ?_⟩
  dsimp only; split
  · rename_i hl; exact hl ▸ Nat.le_succ_of_le hr
  · exact h0.2 l

end WM
