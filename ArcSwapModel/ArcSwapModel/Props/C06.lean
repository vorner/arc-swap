import ArcSwapModel.Props.C05
import ArcSwapModel.Tie.LibRcu
import ArcSwapModel.Tie.LibPtrEq
import ArcSwapModel.Tie.LibGuardIntoInner
import ArcSwapModel.Tie.LibLoad
import ArcSwapModel.Inv.RcuVal2

/-!
# C06 — rcu is an atomic read-modify-write (partial: the commit; see the end for what is missing)

`rcu` is the program the source says it is: `cur = load(); loop { new = f(&cur);
prev = compare_and_swap(&*cur, new); if ptr_eq(&*cur, &*prev) { return into_inner(prev) } else
{ cur = prev } }`.  The closure here allocates a fresh value whose content is `content(cur) + 1`.

Call-level theorem against an adversary that rewrites the shared state before every step of the
caller (any interleaving with other rcu/swap/store/cas callers and readers): when `rcu` returns
`res`, the call wrote the cell **exactly once**, at a step at which the cell held `res` — the very
pointer that was passed to the closure in that attempt — and what it installed is the value that
attempt's closure allocated from it.  Every other attempt wrote nothing.
-/

namespace C06
open M

structure RS where
  l : Locals
  rp : RP
  tries : Nat
  wrote : Nat
  before : Option Nat
  after : Option Nat
  /-- the last closure call: (pointer passed to `f`, address of `f`'s result, content of the result) -/
  lastAlloc : Option (Nat × Nat × Nat)

def isDone : RP → Bool
  | .done _ => true
  | _ => false

def writesR (c : Nat) (sb : Shared × Bool) : RP → Bool
  | .cas cur _ cp => C05.writes c cur.ptr sb cp
  | _ => false

def stepT (cfg : Cfg) (c : Nat) (sb : Shared × Bool) (r : RS) : RS :=
  let x := stepRP cfg c sb.1 r.l sb.2 r.tries r.rp
  let la := match r.rp, x.2.2.1 with
    | .attempt cur, .cas _ a _ => some (cur.ptr, a, (if cur.ptr = 0 then 0 else (sb.1.heap cur.ptr).val) + 1)
    | _, _ => r.lastAlloc
  if writesR c sb r.rp then
    { l := x.2.1, rp := x.2.2.1, tries := x.2.2.2.1, wrote := r.wrote + 1, before := sb.1.cells c,
      after := x.1.cells c, lastAlloc := la }
  else
    { l := x.2.1, rp := x.2.2.1, tries := x.2.2.2.1, wrote := r.wrote, before := r.before, after := r.after,
      lastAlloc := la }

def runT (cfg : Cfg) (c : Nat) : List (Shared × Bool) → RS → RS
  | [], r => r
  | sb :: rest, r => if isDone r.rp then r else runT cfg c rest (stepT cfg c sb r)

/-- bookkeeping invariant of one `rcu` call -/
def KR (r : RS) : Prop :=
  match r.rp with
  | .load _ => r.wrote = 0
  | .attempt _ => r.wrote = 0
  | .dropCurLoop _ _ => r.wrote = 0
  | .cas cur a cp =>
    (∃ v, r.lastAlloc = some (cur.ptr, a, v)) ∧
    C05.K cur.ptr a ⟨r.l, cp, r.wrote, r.before, r.after⟩
  | .intoPrev cur prev _ =>
    r.wrote = 1 ∧ prev.ptr = cur.ptr ∧ ∃ a v, r.lastAlloc = some (cur.ptr, a, v) ∧ r.before = some cur.ptr ∧ r.after = some a
  | .dropCur res _ => r.wrote = 1 ∧ ∃ a v, r.lastAlloc = some (res, a, v) ∧ r.before = some res ∧ r.after = some a
  | .done res => r.wrote = 1 ∧ ∃ a v, r.lastAlloc = some (res, a, v) ∧ r.before = some res ∧ r.after = some a

theorem KR_step (cfg : Cfg) (c : Nat) (sb : Shared × Bool) (r : RS) (h : KR r) : KR (stepT cfg c sb r) := by
  obtain ⟨s, b⟩ := sb
  obtain ⟨l, rp, tries, wrote, before, after, la⟩ := r
  cases rp with
  | load ld =>
    simp only [KR] at h
    simp only [stepT, writesR, stepRP, Bool.false_eq_true, ↓reduceIte]
    split <;> simp only [KR] <;> exact h
  | attempt cur =>
    simp only [KR] at h
    simp only [stepT, writesR, stepRP, Bool.false_eq_true, ↓reduceIte, KR, C05.K]
    exact ⟨⟨_, rfl⟩, h⟩
  | cas cur a cp =>
    obtain ⟨⟨v, hla⟩, hk⟩ := h
    -- the nested call obeys C05's bookkeeping, and `rcu` records what the nested call records
    have hk' := C05.K_step cfg c cur.ptr a (s, b) ⟨l, cp, wrote, before, after⟩ hk
    have e : stepT cfg c (s, b) ⟨l, .cas cur a cp, tries, wrote, before, after, la⟩ =
        ⟨(C05.stepT cfg c cur.ptr a (s, b) ⟨l, cp, wrote, before, after⟩).l,
          RP.afterCas cur a (C05.stepT cfg c cur.ptr a (s, b) ⟨l, cp, wrote, before, after⟩).cp, tries,
          (C05.stepT cfg c cur.ptr a (s, b) ⟨l, cp, wrote, before, after⟩).wrote,
          (C05.stepT cfg c cur.ptr a (s, b) ⟨l, cp, wrote, before, after⟩).before,
          (C05.stepT cfg c cur.ptr a (s, b) ⟨l, cp, wrote, before, after⟩).after, la⟩ := by
      simp only [stepT, writesR, C05.stepT, stepRP_cas]; split <;> rfl
    rw [e]
    generalize C05.stepT cfg c cur.ptr a (s, b) ⟨l, cp, wrote, before, after⟩ = r' at hk'
    obtain ⟨l', cp', w', b', a'⟩ := r'
    cases cp' with
    | done prev =>
      simp only [C05.K] at hk'
      simp only [RP.afterCas]
      rcases hk' with ⟨h1, h2, h3, h4⟩ | ⟨h1, h2⟩
      · simp only [h2, ↓reduceIte]
        split
        · split <;> exact ⟨h1, a, v, hla, h3, h4⟩
        · exact ⟨h1, h2, a, v, hla, h3, h4⟩
      · rw [if_neg h2]; split <;> exact h1
    | _ => exact ⟨⟨v, hla⟩, hk'⟩
  | intoPrev cur prev gi =>
    simp only [KR] at h
    obtain ⟨h1, h2, a, v, h3, h4, h5⟩ := h
    simp only [stepT, writesR, stepRP, Bool.false_eq_true, ↓reduceIte]
    split
    · simp only; split <;> simp only [KR] <;> exact ⟨h1, a, v, by rw [h3, h2], by rw [h4, h2], h5⟩
    · simp only [KR]; exact ⟨h1, h2, a, v, h3, h4, h5⟩
  | dropCur res gd =>
    simp only [KR] at h
    simp only [stepT, writesR, stepRP, Bool.false_eq_true, ↓reduceIte]
    split <;> simp only [KR] <;> exact h
  | dropCurLoop prev gd =>
    simp only [KR] at h
    simp only [stepT, writesR, stepRP, Bool.false_eq_true, ↓reduceIte]
    split <;> simp only [KR] <;> exact h
  | done res =>
    simp only [stepT, writesR, stepRP, Bool.false_eq_true, ↓reduceIte]
    exact h

theorem KR_run (cfg : Cfg) (c : Nat) : ∀ (adv : List (Shared × Bool)) (r : RS), KR r → KR (runT cfg c adv r) := by
  intro adv
  induction adv with
  | nil => intro r h; exact h
  | cons sb rest ih =>
    intro r h
    simp only [runT]
    split
    · exact h
    · exact ih _ (KR_step cfg c sb r h)

/-- **C06 (commit)**: a returning `rcu` wrote the cell exactly once, on top of exactly the pointer
    `res` it had passed to the closure in that attempt (the cell held `res` at the writing step),
    installing that attempt's result `a` (whose content `v` is `f` of the content read through the
    guard in that attempt); and it returns `res`, the value it replaced. -/
theorem C06_commit (cfg : Cfg) (c : Nat) (adv : List (Shared × Bool)) (l : Locals) (res : Nat)
    (h : (runT cfg c adv ⟨l, .load .start, 0, 0, none, none, none⟩).rp = .done res) :
    let r := runT cfg c adv ⟨l, .load .start, 0, 0, none, none, none⟩
    r.wrote = 1 ∧ ∃ a v, r.lastAlloc = some (res, a, v) ∧ r.before = some res ∧ r.after = some a := by
  have hk := KR_run cfg c adv ⟨l, .load .start, 0, 0, none, none, none⟩ (by simp [KR])
  generalize runT cfg c adv ⟨l, .load .start, 0, 0, none, none, none⟩ = R at *
  simpa only [KR, h] using hk

/-- **the closure is handed a live value (partial)**: at the step at which `rcu` evaluates the
    closure on the value it loaded, that value has not been destroyed, whatever the other threads
    have done since the load (replaced it, dropped the old one, consumed or dropped the container)
    — along every execution that satisfies the ledger's assumptions and has raised no fault; so
    the pointer still denotes the object that was loaded (its address has not been reused) -/
theorem C06_closure_sees_live_value_partial (K N T : Nat) (hK : 0 < K) (cfg : Cfg) (progs : Nat → List (String × Op))
    (sched : List (Nat × Bool)) (he : EnvRun0 K N T (State.initial cfg progs) sched)
    (hf : (run (State.initial cfg progs) sched).sh.fault = none)
    (t : Nat) (ht : t < T) (c out tries : Nat) (cur : Guard) (hp : cur.ptr ≠ 0)
    (hop : ((run (State.initial cfg progs) sched).th t).op = .rcu c out tries (.attempt cur)) :
    ((run (State.initial cfg progs) sched).sh.heap cur.ptr).live = true :=
  rcu_closure_value_alive K N T hK cfg progs sched he hf t ht c out tries cur hp hop

/-- … and evaluating it raises no fault -/
theorem C06_closure_step_no_fault_partial (K N T : Nat) (hK : 0 < K) (cfg : Cfg) (progs : Nat → List (String × Op))
    (sched : List (Nat × Bool)) (he : EnvRun0 K N T (State.initial cfg progs) sched)
    (hf : (run (State.initial cfg progs) sched).sh.fault = none)
    (t : Nat) (ht : t < T) (b : Bool) (c out tries : Nat) (cur : Guard)
    (hop : ((run (State.initial cfg progs) sched).th t).op = .rcu c out tries (.attempt cur)) :
    (microStep (run (State.initial cfg progs) sched) t b).1.sh.fault = none :=
  rcu_attempt_no_fault K N T hK cfg progs sched he hf t ht b c out tries cur hop

/-- **an object keeps its identity and content while it is counted**: the allocator hands out only
    addresses whose count is zero, so no step changes the `id` or the content of an object with a
    positive count — pointer equality is object identity for as long as a guard or handle keeps the
    object alive -/
theorem C06_counted_object_keeps_identity (st : State) (t : Nat) (b : Bool) (a : Nat)
    (hroom : ∀ v, (st.sh.heap (alloc st.sh v).2.1).cnt = 0) (hc : 1 ≤ (st.sh.heap a).cnt) :
    ((microStep st t b).1.sh.heap a).id = (st.sh.heap a).id ∧
      ((microStep st t b).1.sh.heap a).val = (st.sh.heap a).val :=
  counted_keeps_identity st t b a hroom hc

/-- **`rcu` installs `f(v)` on top of the very `v` it gave to `f` (partial)**: with the closure
    `|v| v + 1`, at the step at which an `rcu` exchanges the pointer (the container holds the
    address the closure was given), the container afterwards holds the allocated object and its
    content is the replaced content plus one — the replaced object is the one the closure saw, kept
    alive (hence never re-allocated) by the guard from the load to the exchange.  So completed
    `rcu` increments compose like sequential ones: each adds exactly one to what it replaces.
    Along every execution that satisfies the ledger's assumptions and has raised no fault. -/
theorem C06_exchange_adds_one_partial (K N T : Nat) (hK : 0 < K) (cfg : Cfg) (progs : Nat → List (String × Op))
    (sched : List (Nat × Bool)) (he : EnvRun0 K N T (State.initial cfg progs) sched)
    (hf : (run (State.initial cfg progs) sched).sh.fault = none)
    (t c out tries : Nat) (cur : Guard) (a : Nat) (old : Guard)
    (hop : ((run (State.initial cfg progs) sched).th t).op = .rcu c out tries (.cas cur a (.cx old)))
    (hq : (run (State.initial cfg progs) sched).sh.cells c = some cur.ptr) :
    (microStep (run (State.initial cfg progs) sched) t false).1.sh.cells c = some a ∧
      valOf (microStep (run (State.initial cfg progs) sched) t false).1.sh a =
        valOf (run (State.initial cfg progs) sched).sh cur.ptr + 1 :=
  rcu_exchange_adds_one K N T hK cfg progs sched he hf t c out tries cur a old hop hq

/-- the invariant behind it, for every state between the closure and the exchange -/
theorem C06_result_is_f_of_loaded_partial (K N T : Nat) (hK : 0 < K) (cfg : Cfg) (progs : Nat → List (String × Op))
    (sched : List (Nat × Bool)) (he : EnvRun0 K N T (State.initial cfg progs) sched)
    (hf : (run (State.initial cfg progs) sched).sh.fault = none) :
    RcuVal2 (run (State.initial cfg progs) sched) :=
  rcuVal_run K N T hK cfg progs sched he hf

/-!
Not proved: that the results of discarded attempts are destroyed (it is the ownership accounting of
C02: the rejected `new` is released by `dropNew`, a step whose count operation is covered by
`C01_count_step_no_fault_partial`), and the fold over a whole execution as one statement about
`hist` (each exchange adds one — above — and nothing else writes the container: C04).  The harness
checks both on every execution (content installed = content replaced + 1; no leak at quiescence).
-/

end C06
