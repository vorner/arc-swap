import ArcSwapModel.Props.C10
import ArcSwapModel.Inv.HazD4

/-!
# C10 — what a guard denotes stays alive: after the container is dropped or consumed, on any
thread, after its creator has exited (partial: the ledger's assumptions)

`Props/C10.lean` is about the guard's debt slot.  Here: the object.  The theorems are those of the
hazard clause of C01 (`Inv/HazD*`), stated for the situations C10 names.  A guard in a register of
the machine belongs to no thread: any thread may use or drop it, and the state in which it is
looked at is any state of any execution — its creator may be inside another operation, between
operations, or have exited.
-/

namespace C10
open M Consts

/-- **a guard stays valid whatever happens to the container and to the other threads** — along
    every execution that satisfies the ledger's assumptions and has raised no fault, the value of
    every guard in a register has a positive count and has not been destroyed; the execution may
    have replaced the value any number of times, consumed the container (`into_inner`) or dropped
    it, and the thread that created the guard may have exited. -/
theorem C10_guard_value_outlives_everything_partial (K N T : Nat) (hK : 0 < K) (cfg : Cfg)
    (progs : Nat → List (String × Op)) (sched : List (Nat × Bool))
    (he : EnvRun0 K N T (State.initial cfg progs) sched)
    (hf : (run (State.initial cfg progs) sched).sh.fault = none)
    (g : Nat) (hg : g < N) (gd : Guard) (hreg : (run (State.initial cfg progs) sched).sh.greg g = some gd)
    (hp : gd.ptr ≠ 0) :
    1 ≤ ((run (State.initial cfg progs) sched).sh.heap gd.ptr).cnt ∧
      ((run (State.initial cfg progs) sched).sh.heap gd.ptr).live = true :=
  guard_value_alive_env K N T hK cfg progs sched he hf gd.ptr hp g hg gd hreg rfl

/-- … in particular in a state in which the container the guard came from has been taken for
    destruction -/
theorem C10_guard_valid_while_container_destroyed_partial (K N T : Nat) (hK : 0 < K) (cfg : Cfg)
    (progs : Nat → List (String × Op)) (sched : List (Nat × Bool))
    (he : EnvRun0 K N T (State.initial cfg progs) sched)
    (hf : (run (State.initial cfg progs) sched).sh.fault = none)
    (g : Nat) (hg : g < N) (gd : Guard) (hreg : (run (State.initial cfg progs) sched).sh.greg g = some gd)
    (hp : gd.ptr ≠ 0) (c : Nat) (_htaken : (run (State.initial cfg progs) sched).ctaken c = true) :
    ((run (State.initial cfg progs) sched).sh.heap gd.ptr).live = true :=
  (C10_guard_value_outlives_everything_partial K N T hK cfg progs sched he hf g hg gd hreg hp).2

/-- dereferencing it raises no fault, whichever thread does it -/
theorem C10_guard_deref_anywhere_no_fault_partial (K N T : Nat) (hK : 0 < K) (cfg : Cfg)
    (progs : Nat → List (String × Op)) (sched : List (Nat × Bool))
    (he : EnvRun0 K N T (State.initial cfg progs) sched)
    (hf : (run (State.initial cfg progs) sched).sh.fault = none)
    (t g : Nat) (hg : g < N) (b : Bool) (txt : String) (rest : List (String × Op))
    (hidle : ((run (State.initial cfg progs) sched).th t).op = .idle)
    (hprog : ((run (State.initial cfg progs) sched).th t).prog = (txt, .gderef g) :: rest) :
    (microStep (run (State.initial cfg progs) sched) t b).1.sh.fault = none :=
  gderef_no_fault_env K N T hK cfg progs sched he hf t g hg b txt rest hidle hprog

/-- non-vacuity: in the execution `hazSchedD` of `hazExD` thread 0 holds a borrowed guard of value
    1 in register 0 while thread 1 has taken the container for destruction -/
example : (run hazExD hazSchedD).sh.greg 0 = some { ptr := 1, debt := some (0, 0) } ∧
    (run hazExD hazSchedD).ctaken 0 = true := by decide +kernel

end C10
