import ArcSwapModel.SerdeM
import ArcSwapModel.Tie.SerdeSerialize
import ArcSwapModel.Tie.SerdeDeserialize
import ArcSwapModel.Tie.LibFrom
import ArcSwapModel.Tie.LibNew
import ArcSwapModel.Tie.LibWithStrategy
import ArcSwapModel.Tie.LibLoad

/-!
# C20 — serde support is transparent
-/

namespace C20
open SerdeM

theorem ser_length_pos (v : Val) : 0 < (ser v).length := by
  cases v <;> simp [ser]

/-- the deserializer inverts the serializer, with any continuation of the token stream -/
theorem de_ser (v : Val) : ∀ (rest : List Tok) (fuel : Nat), (ser v).length ≤ fuel →
    de fuel (ser v ++ rest) = some (v, rest) := by
  induction v with
  | u64 | str | unit | none => intro rest fuel h; cases fuel <;> simp_all [ser, de]
  | some v ih =>
    intro rest fuel h
    cases fuel with
    | zero => simp [ser] at h
    | succ f =>
      simp only [ser, List.length_cons] at h
      simp only [ser, List.cons_append, de]
      rw [ih rest f (by omega)]; rfl
  | pair a b iha ihb =>
    intro rest fuel h
    cases fuel with
    | zero => simp [ser] at h
    | succ f =>
      simp only [ser, List.length_cons, List.length_append, List.length_nil] at h
      simp only [ser, List.cons_append, List.append_assoc, de]
      rw [iha _ f (by omega)]
      simp only
      rw [ihb _ f (by omega)]
      simp

/-- **Transparency**: a container serializes to exactly what its currently stored value
    serializes to (`None` included: `[Tok.none]`), and serializing does not change it. -/
theorem C20_transparent (c : Container) :
    (serContainer c).1 = ser c.current ∧ (serContainer c).2 = c := ⟨rfl, rfl⟩

theorem C20_none (n : Nat) : (serContainer ⟨.none, n⟩).1 = [Tok.none] := rfl

/-- **Deserialization** yields a container holding exactly the deserialized value, with a single
    reference. -/
theorem C20_de_single_ref (fuel : Nat) (ts : List Tok) (c : Container) (r : List Tok)
    (h : deContainer fuel ts = some (c, r)) : c.strong = 1 ∧ de fuel ts = some (c.current, r) := by
  obtain ⟨⟨v, r'⟩, hd, ⟨⟩⟩ := Option.map_eq_some_iff.mp h
  exact ⟨rfl, hd⟩

/-- **Round trip** for every value (scalars, strings, options, nested structures): deserializing
    what a container serialized gives a container holding an equal value with one reference —
    the strategy occurs in neither body. -/
theorem C20_roundtrip (c : Container) :
    deContainer (ser c.current).length ((serContainer c).1) = some (⟨c.current, 1⟩, []) := by
  have := de_ser c.current [] (ser c.current).length (Nat.le_refl _)
  simp only [List.append_nil] at this
  simp [deContainer, serContainer, this]

example : de 10 (ser (.pair (.some (.u64 7)) (.pair (.str "x") .none))) =
    some (.pair (.some (.u64 7)) (.pair (.str "x") .none), []) := by decide +kernel

end C20
