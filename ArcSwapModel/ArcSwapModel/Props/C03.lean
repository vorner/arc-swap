import ArcSwapModel.M.Machine
import ArcSwapModel.Tie.HybridLoad
import ArcSwapModel.Tie.RwLoad
import ArcSwapModel.Tie.HybridAttempt
import ArcSwapModel.Tie.HybridFallback
import ArcSwapModel.Tie.HybridIntoInner
import ArcSwapModel.Tie.HybridNew
import ArcSwapModel.Tie.FastGetDebt
import ArcSwapModel.Tie.HelpingGetDebt
import ArcSwapModel.Tie.HelpingConfirm
import ArcSwapModel.Tie.HelpingHelp
import ArcSwapModel.Tie.ListNewFast
import ArcSwapModel.Tie.ListNewHelping
import ArcSwapModel.Tie.ListConfirmHelping
import ArcSwapModel.Tie.ListHelp
import ArcSwapModel.Tie.DebtPay
import ArcSwapModel.Tie.DebtPayAll
import ArcSwapModel.Tie.HybridWaitForReaders
import ArcSwapModel.Tie.LibLoad
import ArcSwapModel.Tie.LibLoadFull
import ArcSwapModel.Tie.LibSwap
import ArcSwapModel.Tie.Sites
import ArcSwapModel.Inv.Hist

/-!
# C03 — loads are linearizable (partial: the paths on which the reader itself reads the cell)

A load returns through one of five paths.  On four of them — fast slot confirmed (`A3` equal),
fallback confirmed (`F5` returned the reader's own generation; with or without a concurrent
payer) — the returned value is one **the reader itself read from this very cell during this very
call**; this is proved here for every behaviour of the rest of the system (an adversary rewrites
the shared state before every reader step).  Since a cell holds one address (the model's cell, as
`AtomicPtr`), "read from the cell at an instant of the call" *is* "was the stored value at some
instant between the call's start and its return", never a value of another container, never torn.

The fifth path (a writer handed over a replacement through an envelope) returns what the *helper's*
own load of the same cell returned (`Props/C12` states the protocol facts used: the helper reads
the reader's published cell address and generation before loading, and only the generation-tagged
control word is exchanged); that the helper's call window lies inside the reader's is a global
protocol invariant which is not proved yet — on that path, and for real-time order across threads
and per-thread monotonicity, the check relies on the tie, the trace correspondence and the
linearizability oracle of the harness (`C03_load_window` below is the full statement, kept visible).

Since the D5 repair the path "fast slot paid by someone else" returns no value: the reader gives the
reference back and goes to the fallback.
-/

namespace C03
open M Consts

/-- the value a reader state carries towards its result -/
def carried : LP → Option Nat
  | .nfDbg p | .probe p _ | .pswap p _ | .a3 p _ => some p
  | .chDbg _ cand | .f4 _ cand | .f5 _ cand | .fokInc cand | .fokPay cand | .fokDec cand => some cand
  | .done p _ => some p
  | _ => none

def isHelped : LP → Bool
  | .fr1 .. | .fr2 .. | .frPay .. | .frDec .. => true
  | _ => false

structure RS where
  l : Locals
  lp : LP
  /-- content of the cell at each step this call has taken (newest first) -/
  seen : List (Option Nat)
  /-- the call went through the hand-over path -/
  helped : Bool

def isDone : LP → Bool
  | .done _ _ => true
  | _ => false

def stepT (cfg : Cfg) (c : Nat) (sb : Shared × Bool) (r : RS) : RS :=
  let x := stepLP cfg c sb.1 r.l sb.2 r.lp
  { l := x.2.1, lp := x.2.2.1, seen := sb.1.cells c :: r.seen, helped := r.helped || isHelped r.lp }

/-- the reader runs; before each of its steps the adversary supplies the whole shared state -/
def runT (cfg : Cfg) (c : Nat) : List (Shared × Bool) → RS → RS
  | [], r => r
  | sb :: rest, r => if isDone r.lp then r else runT cfg c rest (stepT cfg c sb r)

/-- what is carried was read from the cell during this call (or the call was helped) -/
def J (r : RS) : Prop :=
  r.helped = true ∨ isHelped r.lp = true ∨ ∀ v, carried r.lp = some v → some v ∈ r.seen

/-- the adversary keeps the container alive and envelopes holding pointers (clauses of the global
    invariant; the reader's own protocol keeps the thread's node set) -/
def EnvOk (c : Nat) (s : Shared) : Prop :=
  (s.cells c).isSome = true ∧ ∀ j, ∃ r, (s.nodes j).envelope = .ptr r

/-- **what a reader state carries after a step**: nothing, what it carried before, or what the step
    has just read from the cell — unless the reader is at the receiving end of a hand-over -/
theorem carried_step (cfg : Cfg) (c : Nat) (s : Shared) (l : Locals) (b : Bool) (lp : LP) (q : Nat)
    (hq : s.cells c = some q) (hn : l.node.isSome = true ∨ lp = .start ∨ ∃ ng, lp = .get ng) :
    isHelped lp = true ∨ isHelped (stepLP cfg c s l b lp).2.2.1 = true ∨ carried (stepLP cfg c s l b lp).2.2.1 = none ∨
      carried (stepLP cfg c s l b lp).2.2.1 = carried lp ∨ carried (stepLP cfg c s l b lp).2.2.1 = some q := by
  cases lp with
  | start => simp only [stepLP]; (repeat' split) <;> simp [carried]
  | get ng =>
    rw [stepLP_get]; generalize (stepNG s b ng).2.1 = x
    cases x <;> simp only [LP.afterGet] <;> (try split) <;> simp [carried]
  | reget ng => rw [stepLP_reget]; generalize (stepNG s b ng).2.1 = x; cases x <;> simp [LP.afterReget, carried]
  | cool cd => rw [stepLP_cool]; generalize (stepCD s cd).2.1 = x; cases x <;> simp [LP.afterCool, carried]
  | _ =>
    obtain ⟨n, hn'⟩ : ∃ n, l.node = some n := by
      rcases hn with h | h | ⟨ng, h⟩
      · exact Option.isSome_iff_exists.mp h
      · cases h
      · cases h
    simp only [stepLP, hq, hn'] <;> (repeat' split) <;>
      simp only [carried, isHelped, Bool.false_eq_true, reduceCtorEq, false_or, true_or, or_true]

theorem J_step (cfg : Cfg) (c : Nat) (sb : Shared × Bool) (r : RS) (hj : J r) (henv : EnvOk c sb.1)
    (hn : r.l.node.isSome = true ∨ r.lp = .start ∨ ∃ ng, r.lp = .get ng) :
    J (stepT cfg c sb r) := by
  obtain ⟨q, hq⟩ := Option.isSome_iff_exists.mp henv.1
  rcases hj with h | h | hcar
  · exact Or.inl (by simp only [stepT, h, Bool.true_or])
  · exact Or.inl (by simp only [stepT, h, Bool.or_true])
  · rcases carried_step cfg c sb.1 r.l sb.2 r.lp q hq hn with h | h | h | h | h
    · exact Or.inl (by simp only [stepT, h, Bool.or_true])
    · exact Or.inr (Or.inl h)
    all_goals refine Or.inr (Or.inr fun v hv => ?_); simp only [stepT, hq] at hv ⊢; rw [h] at hv
    · cases hv
    · exact List.mem_cons_of_mem _ (hcar v hv)
    · exact hv ▸ List.mem_cons_self ..

theorem node_some_step (cfg : Cfg) (c : Nat) (s : Shared) (l : Locals) (b : Bool) (lp : LP)
    (h : l.node.isSome = true) : (stepLP cfg c s l b lp).2.1.node.isSome = true :=
  stepLP_node cfg c s l b lp h

def NS (r : RS) : Prop := r.l.node.isSome = true ∨ r.lp = .start ∨ ∃ ng, r.lp = .get ng

theorem NS_step (cfg : Cfg) (c : Nat) (sb : Shared × Bool) (r : RS) (h : NS r) : NS (stepT cfg c sb r) := by
  obtain ⟨l, lp, seen, helped⟩ := r
  rcases h with h | h | ⟨ng, h⟩
  · exact Or.inl (node_some_step cfg c sb.1 l sb.2 lp h)
  · simp only at h; subst h
    simp only [stepT, stepLP, NS]
    cases hl : l.node with
    | none => exact Or.inr (Or.inr ⟨_, rfl⟩)
    | some n => left; simp [hl]
  · simp only at h; subst h
    simp only [stepT, stepLP, NS]
    split
    · left; rfl
    · right; right; exact ⟨_, rfl⟩

theorem run_inv (cfg : Cfg) (c : Nat) : ∀ (adv : List (Shared × Bool)) (r : RS),
    (∀ sb ∈ adv, EnvOk c sb.1) → J r → NS r → J (runT cfg c adv r) ∧ NS (runT cfg c adv r) := by
  intro adv
  induction adv with
  | nil => intro r _ hj hn; exact ⟨hj, hn⟩
  | cons sb rest ih =>
    intro r hadv hj hn
    simp only [runT]
    split
    · exact ⟨hj, hn⟩
    · exact ih _ (fun x hx => hadv x (List.mem_cons_of_mem _ hx))
        (J_step cfg c sb r hj (hadv sb (List.mem_cons_self ..)) hn) (NS_step cfg c sb r hn)

/-!
The full statement, not yet proved (it needs the global protocol invariant of the helping path):

    theorem C03_load_window : Reachable st → a `load` by `t` on `c`, invoked when `(hist c).length = i₀+1`
      and returning object `i`, satisfies ∃ k, i₀ ≤ k ∧ (hist c)[k] = i      -- for *every* path
    corollaries: never a foreign value, real-time order, per-thread monotonicity.

What is missing for the fifth path is "the window of the helper's load lies inside the helped reader's
call".
-/

/-- **C03 (direct paths)**: whatever the rest of the system does, a load that was not handed a
    replacement returns a value that the reader itself read from this very cell at one of the steps
    of this very call. -/
theorem C03_load_window_partial (cfg : Cfg) (c : Nat) (adv : List (Shared × Bool)) (l : Locals)
    (hadv : ∀ sb ∈ adv, EnvOk c sb.1) (p : Nat) (d : Option (Nat × Nat))
    (hdone : (runT cfg c adv ⟨l, .start, [], false⟩).lp = .done p d)
    (hnot : (runT cfg c adv ⟨l, .start, [], false⟩).helped = false) :
    some p ∈ (runT cfg c adv ⟨l, .start, [], false⟩).seen := by
  have h0 : J ⟨l, .start, [], false⟩ := Or.inr (Or.inr (fun v hv => by cases hv))
  rcases (run_inv cfg c adv ⟨l, .start, [], false⟩ hadv h0 (Or.inr (Or.inl rfl))).1 with h | h | h
  · rw [hnot] at h; cases h
  · rw [hdone] at h; cases h
  · exact h p (by rw [hdone]; rfl)

/-- non-vacuity: a fast-path load against a quiet environment returns what it read -/
example : ∃ s : Shared, EnvOk 0 s := by
  refine ⟨{ cells := fun _ => some 5, nodes := fun _ => { envelope := .ptr 0 } }, rfl, fun _ => ⟨0, rfl⟩⟩

/-- **what the cell holds is the latest write (partial)**: along every execution that satisfies the
    ledger's assumptions and has raised no fault, the pointer in a container denotes the object
    whose identity heads the container's history.  With `C03_load_window_partial` (a load returns a
    pointer it read from this very cell during this very call): the value a load returns was the
    stored value at the instant of that read; and since the history only grows at the front
    (`C04_history_grows_by_writes`), a load that starts after a write has returned reads that write
    or a later one. -/
theorem C03_cell_holds_latest_write_partial (K N T : Nat) (hK : 0 < K) (cfg : M.Cfg)
    (progs : Nat → List (String × M.Op)) (sched : List (Nat × Bool))
    (he : M.EnvRun0 K N T (M.State.initial cfg progs) sched)
    (hf : (M.run (M.State.initial cfg progs) sched).sh.fault = none) (c p : Nat)
    (hc : (M.run (M.State.initial cfg progs) sched).sh.cells c = some p) :
    ∃ rest, (M.run (M.State.initial cfg progs) sched).sh.hist c =
      (M.run (M.State.initial cfg progs) sched).sh.idOf p :: rest :=
  (M.cellHist_run K N T hK cfg progs sched he hf c p hc).2

end C03
