import ArcSwapModel.WM
import ArcSwapModel.Tie.Sites
import ArcSwapModel.Tie.HybridAttempt
import ArcSwapModel.Tie.HybridFallback
import ArcSwapModel.Tie.HybridCas
import ArcSwapModel.Tie.HybridDrop
import ArcSwapModel.Tie.HelpingConfirm
import ArcSwapModel.Tie.HelpingHelp
import ArcSwapModel.Tie.HelpingGetDebt
import ArcSwapModel.Tie.FastGetDebt
import ArcSwapModel.Tie.DebtPay
import ArcSwapModel.Tie.DebtPayAll
import ArcSwapModel.Tie.LibSwap
import ArcSwapModel.Tie.LibStore
import ArcSwapModel.Tie.RwLoad
import ArcSwapModel.Tie.RwCas

/-!
# C07 — publication: what was written before a store is visible, race-free, to whoever obtains the value

Stated over `WM` (release/acquire views with stale reads): every theorem holds for **whichever**
message each access happens to read (any stale one the thread may still read), for any thread
views and any number of threads — the environment is universally quantified.  The orderings are
parameters of the general theorems (`…_general`, `count_chain`) and are then instantiated with the
orderings `rs2lean` read from the current source at exactly the call sites concerned (`C07_…`):
weakening one of the orderings the argument needs makes `orderings_of_the_source` fail.

Event numbering: the initialisation of the pointee at address `p` is event `p`; the accesses a
thread made through a handle are whatever events its view contains.

Paths a pointer travels (the property's list):
* direct load, fast path — `C07_fast_path`;
* confirmed debt on the fallback path — `C07_fallback`;
* helper hand-over envelope — `C07_helper_publishes` (writer side), `C07_handover` (reader side:
  it cannot read an older content of the envelope, and knows the replacement's initialisation);
* returned previous value (`swap`, successful `compare_and_swap`) — `C07_previous_value`;
* every message a writer leaves in a container is well-published — `C07_store_publishes`;
* lock-based strategy — `C07_rw_publication`;
* towards destruction: what a reader did through a borrowed pointer is released by the pay-back
  and learnt by any writer whose walk reads that slot afterwards (through any chain of later
  read-modify-writes), `C07_walk_learns_reader_accesses`; the reference count hand-off itself is the
  `RefCnt` implementation's (Arc: Release decrement, Acquire before destruction) —
  `count_chain` shows that protocol carries every releaser's view to the destroyer.
-/

namespace C07
open WM Extract

/-- a message in a container cell is well-published: acquiring it gives the initialisation of the
    pointee it names -/
def CellOK (m : Msg) : Prop := m.val ≠ 0 → m.view.ev m.val

/-! ## Writers: every value put into a container is published -/

/-- `swap` / `store` / successful `compare_and_swap`: a read-modify-write with a release ordering
    by a thread that knows the new value's initialisation leaves a well-published message -/
theorem store_publishes_general (o : Ord) (V : View) (m : Msg) (new : Nat)
    (hk : new ≠ 0 → V.ev new) (hr : canRead V m) (h : isRel o = true) :
    CellOK (rmwMsg o V m new) := by
  intro hne
  exact (rmw_release_carries o V m new h hr).1 new (hk hne)

/-- the value a read-modify-write takes out (returned previous value) is known to the caller if
    the ordering acquires -/
theorem previous_value_general (o : Ord) (V : View) (m : Msg) (hm : CellOK m) (h : isAcq o = true)
    (hne : m.val ≠ 0) : (afterRead o V m).ev m.val :=
  (acquire_learns o V m h).1 _ (hm hne)

/-! ## Readers -/

/-- the fast path of `load`: first read (`o0`), publication of the debt (a swap on the thread's
    own slot, `oS`), confirming read (`o1`); succeeds iff both reads gave the same pointer -/
def fastPath (o0 oS o1 : Ord) (V : View) (m0 ms m1 : Msg) : Option (Nat × View) :=
  let V0 := afterRead o0 V m0
  let V1 := afterRead oS V0 ms
  let V2 := afterRead o1 V1 m1
  if m1.val = m0.val then some (m0.val, V2) else none

/-- whatever the first read returned and however stale either read is: if the confirming read
    acquires, the pointer the fast path hands out is known to the reader (this is why the second
    read, not the first, carries the ordering — address reuse between the two is harmless) -/
theorem fast_path_general (o0 oS o1 : Ord) (V : View) (m0 ms m1 : Msg) (p : Nat) (V' : View)
    (hm1 : CellOK m1) (h : isAcq o1 = true) (hres : fastPath o0 oS o1 V m0 ms m1 = some (p, V')) (hp : p ≠ 0) :
    V'.ev p := by
  unfold fastPath at hres
  split at hres
  · rename_i heq
    cases hres
    exact heq ▸ (acquire_learns o1 _ m1 h).1 m1.val (hm1 (heq ▸ hp))
  · cases hres

/-- the fallback path when nobody helped: candidate read (`oC`), debt published in the helping slot
    (`oS`), control word swapped back (`oW`) and found to be the reader's own generation: the
    candidate is what the load returns -/
def fallbackOwn (oC oS oW : Ord) (V : View) (mc ms mw : Msg) : Nat × View :=
  (mc.val, afterRead oW (afterRead oS (afterRead oC V mc) ms) mw)

/-- the candidate read itself must acquire: nothing else on this path synchronises with whoever
    stored the candidate (the two swaps are on the reader's own node) -/
theorem fallback_general (oC oS oW : Ord) (V : View) (mc ms mw : Msg) (hmc : CellOK mc)
    (h : isAcq oC = true) (hp : mc.val ≠ 0) : (fallbackOwn oC oS oW V mc ms mw).2.ev mc.val :=
  (afterRead_mono oW _ mw).1 _ ((afterRead_mono oS _ ms).1 _ ((acquire_learns oC V mc h).1 _ (hmc hp)))

/-! ## Hand-over through the envelope -/

/-- what the control word's message promises when it names envelope `e`: the writer's store of the
    replacement `r` into `e` (at timestamp `te`) and the initialisation of `r` are released with it -/
def CtlOK (mw : Msg) (e te r : Nat) : Prop := te ≤ mw.view.ts e ∧ (r ≠ 0 → mw.view.ev r)

/-- writer side: it knows `r` (it loaded it itself), writes it into its envelope at `te`, then
    compare-exchanges the reader's control word (reading the reader's generation message `mg`) to
    the envelope's address with a release ordering -/
theorem helper_publishes_general (oCs : Ord) (Vw : View) (e te r tag : Nat) (mg : Msg)
    (hk : r ≠ 0 → Vw.ev r) (hr : canRead ⟨Vw.ev, fun l => if l = e then te else Vw.ts l⟩ mg)
    (h : isRel oCs = true) :
    CtlOK (rmwMsg oCs ⟨Vw.ev, fun l => if l = e then te else Vw.ts l⟩ mg tag) e te r := by
  have hc := rmw_release_carries oCs ⟨Vw.ev, fun l => if l = e then te else Vw.ts l⟩ mg tag h hr
  exact ⟨by simpa using hc.2 e, fun hne => hc.1 r (hk hne)⟩

/-- reader side: it swaps the control word (`oW`) and finds an envelope address; then it reads the
    envelope (`oE`).  With an acquiring swap it cannot read a content of the envelope older than
    the writer's store, and it knows the replacement's initialisation — even if the envelope read
    itself were relaxed. -/
theorem handover_general (oW oE : Ord) (V : View) (mw me : Msg) (e te r : Nat)
    (hctl : CtlOK mw e te r) (h : isAcq oW = true) (hloc : me.loc = e)
    (hread : canRead (afterRead oW V mw) me)
    (hlatest : ∀ m' : Msg, m'.loc = e → te ≤ m'.ts → m'.val = r) :
    me.val = r ∧ (r ≠ 0 → (afterRead oE (afterRead oW V mw) me).ev r) := by
  have hle := acquire_learns oW V mw h
  have hts : te ≤ me.ts := Nat.le_trans (Nat.le_trans hctl.1 (hle.2 e)) (hloc ▸ hread)
  exact ⟨hlatest me hloc hts, fun hne => (afterRead_mono oE _ me).1 r (hle.1 r (hctl.2 hne))⟩

/-! ## Towards destruction: accesses through a borrowed pointer -/

/-- `m` is `m0` or follows it through read-modify-writes only (a release sequence) -/
inductive RmwChain (m0 : Msg) : Msg → Prop
  | head : RmwChain m0 m0
  | rmw (o : Ord) (V : View) (m : Msg) (v : Nat) : RmwChain m0 m → RmwChain m0 (rmwMsg o V m v)

theorem chain_carries {m0 m : Msg} (h : RmwChain m0 m) : m0.view.le m.view := by
  induction h with
  | head => exact le_refl _
  | rmw o V m v _ ih => exact le_trans ih (rmw_continues o V m v)

/-- A release sequence: whoever acquires a message that follows a releasing read-modify-write
    through read-modify-writes only learns the view of the thread that released.  This is the
    reference-count protocol (`RefCnt` implementation: Release decrements, Acquire before the
    destructor): whoever acquires a message of the count location learns the view of every thread
    that decremented before; and it is the pay-back of a debt (`C07_walk_learns_reader_accesses`). -/
theorem count_chain (oD oA : Ord) (Vd Vlast : View) (md mseen : Msg) (v : Nat)
    (hrel : isRel oD = true) (hacq : isAcq oA = true) (hr : canRead Vd md)
    (hchain : RmwChain (rmwMsg oD Vd md v) mseen) :
    Vd.le (afterRead oA Vlast mseen) :=
  le_trans (rmw_release_carries oD Vd md v hrel hr)
    (le_trans (chain_carries hchain) (acquire_learns oA Vlast mseen hacq))

/-! ## Instantiation with the orderings of the current source -/

/-- the `k`-th ordering argument of the `idx`-th atomic call site of a function of the crate -/
def srcOrd (file fn : String) (idx k : Nat) : Ord :=
  match (fnSites file fn)[idx]? with
  | some s => s.ords.getD k .relaxed
  | none => .relaxed

def oSwap := srcOrd "lib.rs" "ArcSwapAny<T,S>::swap" 0 0
def oCasOk := srcOrd "strategy/hybrid.rs" "<HybridStrategy<Cfg> as CaS<T>>::compare_and_swap" 0 0
def oFirst := srcOrd "strategy/hybrid.rs" "HybridProtection<T>::attempt" 0 0
def oConfirm := srcOrd "strategy/hybrid.rs" "HybridProtection<T>::attempt" 1 0
def oFastSlot := srcOrd "debt/fast.rs" "Slots::get_debt" 1 0
def oCandidate := srcOrd "strategy/hybrid.rs" "HybridProtection<T>::fallback" 0 0
def oHelpSlot := srcOrd "debt/helping.rs" "Slots::confirm" 0 0
def oCtlSwap := srcOrd "debt/helping.rs" "Slots::confirm" 1 0
def oEnvLoad := srcOrd "debt/helping.rs" "Slots::confirm" 2 0
def oCtlCas := srcOrd "debt/helping.rs" "Slots::help" 7 0
def oPayOk := srcOrd "debt/mod.rs" "Debt::pay" 0 0
def oPayFail := srcOrd "debt/mod.rs" "Debt::pay" 0 1
def oRwLoad := srcOrd "strategy/rw_lock.rs" "<RwLock<()> as InnerStrategy<T>>::load" 0 0
def oRwCas := srcOrd "strategy/rw_lock.rs" "<RwLock<()> as CaS<T>>::compare_and_swap" 0 0

/-- the orderings the publication argument needs, read off the current source (one evaluation:
    the sites of all the functions concerned are extracted from the same parsed files) -/
theorem orderings_of_the_source :
    isRel oSwap = true ∧ isAcq oSwap = true ∧ isRel oCasOk = true ∧ isAcq oCasOk = true ∧
    isAcq oConfirm = true ∧ isAcq oCandidate = true ∧ isAcq oCtlSwap = true ∧ isRel oCtlCas = true ∧
    isRel oPayOk = true ∧ isAcq oPayOk = true ∧ isAcq oPayFail = true ∧
    isAcq oRwLoad = true ∧ isRel oRwCas = true ∧ isAcq oRwCas = true := by decide +kernel

theorem swap_rel : isRel oSwap = true := orderings_of_the_source.1
theorem swap_acq : isAcq oSwap = true := orderings_of_the_source.2.1
theorem casOk_rel : isRel oCasOk = true := orderings_of_the_source.2.2.1
theorem casOk_acq : isAcq oCasOk = true := orderings_of_the_source.2.2.2.1
theorem confirm_acq : isAcq oConfirm = true := orderings_of_the_source.2.2.2.2.1
theorem candidate_acq : isAcq oCandidate = true := orderings_of_the_source.2.2.2.2.2.1
theorem ctlSwap_acq : isAcq oCtlSwap = true := orderings_of_the_source.2.2.2.2.2.2.1
theorem ctlCas_rel : isRel oCtlCas = true := orderings_of_the_source.2.2.2.2.2.2.2.1
theorem payOk_rel : isRel oPayOk = true := orderings_of_the_source.2.2.2.2.2.2.2.2.1
theorem payOk_acq : isAcq oPayOk = true := orderings_of_the_source.2.2.2.2.2.2.2.2.2.1
theorem payFail_acq : isAcq oPayFail = true := orderings_of_the_source.2.2.2.2.2.2.2.2.2.2.1
theorem rwLoad_acq : isAcq oRwLoad = true := orderings_of_the_source.2.2.2.2.2.2.2.2.2.2.2.1
theorem rwCas_rel : isRel oRwCas = true := orderings_of_the_source.2.2.2.2.2.2.2.2.2.2.2.2.1
theorem rwCas_acq : isAcq oRwCas = true := orderings_of_the_source.2.2.2.2.2.2.2.2.2.2.2.2.2

/- From here on only these facts about the orderings are used.  Left reducible, `srcOrd` would be
   evaluated by the elaborator (slowly: it parses the source) whenever it normalises a goal that
   mentions `afterRead o …`, which branches on `isAcq o`. -/
attribute [local irreducible] srcOrd

theorem C07_store_publishes (V : View) (m : Msg) (new : Nat) (hk : new ≠ 0 → V.ev new) (hr : canRead V m) :
    CellOK (rmwMsg oSwap V m new) ∧ CellOK (rmwMsg oCasOk V m new) ∧ CellOK (rmwMsg oRwCas V m new) :=
  ⟨store_publishes_general _ V m new hk hr swap_rel, store_publishes_general _ V m new hk hr casOk_rel,
   store_publishes_general _ V m new hk hr rwCas_rel⟩

theorem C07_previous_value (V : View) (m : Msg) (hm : CellOK m) (hne : m.val ≠ 0) :
    (afterRead oSwap V m).ev m.val ∧ (afterRead oCasOk V m).ev m.val ∧ (afterRead oRwCas V m).ev m.val :=
  ⟨previous_value_general _ V m hm swap_acq hne, previous_value_general _ V m hm casOk_acq hne,
   previous_value_general _ V m hm rwCas_acq hne⟩

theorem C07_fast_path (V : View) (m0 ms m1 : Msg) (p : Nat) (V' : View) (hm1 : CellOK m1)
    (hres : fastPath oFirst oFastSlot oConfirm V m0 ms m1 = some (p, V')) (hp : p ≠ 0) : V'.ev p :=
  fast_path_general _ _ _ V m0 ms m1 p V' hm1 confirm_acq hres hp

theorem C07_fallback (V : View) (mc ms mw : Msg) (hmc : CellOK mc) (hp : mc.val ≠ 0) :
    (fallbackOwn oCandidate oHelpSlot oCtlSwap V mc ms mw).2.ev mc.val :=
  fallback_general _ _ _ V mc ms mw hmc candidate_acq hp

theorem C07_helper_publishes (Vw : View) (e te r tag : Nat) (mg : Msg) (hk : r ≠ 0 → Vw.ev r)
    (hr : canRead ⟨Vw.ev, fun l => if l = e then te else Vw.ts l⟩ mg) :
    CtlOK (rmwMsg oCtlCas ⟨Vw.ev, fun l => if l = e then te else Vw.ts l⟩ mg tag) e te r :=
  helper_publishes_general _ Vw e te r tag mg hk hr ctlCas_rel

theorem C07_handover (V : View) (mw me : Msg) (e te r : Nat) (hctl : CtlOK mw e te r) (hloc : me.loc = e)
    (hread : canRead (afterRead oCtlSwap V mw) me)
    (hlatest : ∀ m' : Msg, m'.loc = e → te ≤ m'.ts → m'.val = r) :
    me.val = r ∧ (r ≠ 0 → (afterRead oEnvLoad (afterRead oCtlSwap V mw) me).ev r) :=
  handover_general _ _ V mw me e te r hctl ctlSwap_acq hloc hread hlatest

theorem C07_rw_publication (V : View) (m : Msg) (hm : CellOK m) (hne : m.val ≠ 0) :
    (afterRead oRwLoad V m).ev m.val :=
  previous_value_general _ V m hm rwLoad_acq hne

/-- a reader's accesses happen-before everything a writer does after its walk read the slot the
    reader had released (success or failure of the writer's compare-exchange alike): debt slots are
    only ever swapped or compare-exchanged (`debt_slots_never_stored`), so whatever the walk reads
    there is the reader's message or follows it through read-modify-writes -/
theorem C07_walk_learns_reader_accesses (Vr Vw : View) (ms mseen : Msg) (none_ : Nat) (hr : canRead Vr ms)
    (hchain : RmwChain (rmwMsg oPayOk Vr ms none_) mseen) :
    Vr.le (afterRead oPayOk Vw mseen) ∧ Vr.le (afterRead oPayFail Vw mseen) :=
  ⟨count_chain _ _ Vr Vw ms mseen none_ payOk_rel payOk_acq hr hchain,
   count_chain _ _ Vr Vw ms mseen none_ payOk_rel payFail_acq hr hchain⟩

/-- debt slots are only ever swapped or compare-exchanged (never plainly stored to), which is what
    keeps the release sequence of a pay-back unbroken: no `store` among the sites on debt slots -/
theorem debt_slots_never_stored :
    ((fnSites "debt/fast.rs" "Slots::get_debt").all (fun s => s.op != "store")) = true ∧
    ((fnSites "debt/mod.rs" "Debt::pay").all (fun s => s.op != "store")) = true ∧
    (((fnSites "debt/helping.rs" "Slots::confirm").take 1).all (fun s => s.op != "store")) = true := by decide +kernel

/-! ## Non-vacuity: the hypotheses are satisfiable and the orderings matter -/

/-- with a relaxed confirming read the conclusion of the fast path fails: a concrete reader that
    knows nothing reads a well-published message twice and still does not know the pointee -/
example : ∃ (V : View) (m : Msg), CellOK m ∧
    fastPath .relaxed .seqCst .relaxed V m ⟨7, 0, 3, View.bot⟩ m = some (m.val, afterRead .relaxed (afterRead .seqCst (afterRead .relaxed V m) ⟨7, 0, 3, View.bot⟩) m)
    ∧ m.val ≠ 0 ∧ ¬ (afterRead .relaxed (afterRead .seqCst (afterRead .relaxed V m) ⟨7, 0, 3, View.bot⟩) m).ev m.val := by
  refine ⟨View.bot, ⟨1, 1, 5, ⟨fun e => e = 5, fun _ => 0⟩⟩, ?_, ?_, by decide, ?_⟩
  · intro _; rfl
  · simp [fastPath]
  · simp [afterRead, isAcq, View.join, View.bot]

end C07
