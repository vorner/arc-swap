import ArcSwapModel.Kinds
import ArcSwapModel.Consts
import ArcSwapModel.Tie.RefCntInc
import ArcSwapModel.Tie.RefCntDec
import ArcSwapModel.Tie.RcArcIntoPtr
import ArcSwapModel.Tie.RcArcAsPtr
import ArcSwapModel.Tie.RcArcFromPtr
import ArcSwapModel.Tie.RcRcIntoPtr
import ArcSwapModel.Tie.RcRcAsPtr
import ArcSwapModel.Tie.RcRcFromPtr
import ArcSwapModel.Tie.RcOptIntoPtr
import ArcSwapModel.Tie.RcOptAsPtr
import ArcSwapModel.Tie.RcOptFromPtr
import ArcSwapModel.Tie.WeakAsPtr
import ArcSwapModel.Tie.WeakIntoPtr
import ArcSwapModel.Tie.WeakFromPtr
import ArcSwapModel.Tie.RcWeakAsPtr
import ArcSwapModel.Tie.RcWeakIntoPtr
import ArcSwapModel.Tie.RcWeakFromPtr

/-!
# C15 — pointer-kind laws

For every kind (any base, any depth of `Option`), every well-formed value and every count state.
`Kinds` is a model of std's counts (assumed; validated by running the real impls); the theorems are
about what the crate's impls — transcribed in `Kinds`, tied to the source by the imported
skeleton obligations — make of them.
-/

namespace C15
open Kinds

/-- the inputs `from_ptr` accepts: a plain `Arc`/`Rc` is never built from null -/
def acceptsRaw (k : Kind) (p : Raw) : Prop := p ≠ none ∨ 0 < k.opts ∨ k.base.isWeak = true

/-- **Round trip**: converting to a raw pointer and back touches no count and yields a value with the
    same target. -/
theorem C15_roundtrip (k : Kind) (v : PV) (s : St) (_h : v.wf k = true) :
    (intoPtr k v s).2 = s ∧ (fromPtr k (intoPtr k v s).1).target = v.target := by
  cases v with
  | nones lvl => by_cases h0 : k.opts = 0 <;> simp [intoPtr, fromPtr, PV.target, h0]
  | full t =>
    cases t with
    | none => by_cases h0 : k.opts = 0 <;> simp [intoPtr, fromPtr, PV.target, h0]
    | some n => simp [intoPtr, fromPtr, PV.target]

/-- … and the round trip is the identity, except that an inner `None` (or a dangling `Weak` under
    an `Option`) comes back as the outermost `None`: both denote nothing and both are the null
    pointer — the documented limitation of nested `Option`s, stated rather than hidden. -/
theorem C15_roundtrip_exact (k : Kind) (v : PV) (s : St) (h : v.wf k = true) :
    fromPtr k (intoPtr k v s).1 =
      match v with
      | .nones _ => .nones 0
      | .full none => if k.opts = 0 then .full none else .nones 0
      | .full (some n) => .full (some n) := by
  cases v with
  | nones lvl =>
    simp [PV.wf] at h
    simp [intoPtr, fromPtr]; omega
  | full t => cases t <;> simp [intoPtr, fromPtr]

/-- the result of the round trip is again a well-formed value of the kind -/
theorem C15_roundtrip_wf (k : Kind) (v : PV) (s : St) (h : v.wf k = true) :
    (fromPtr k (intoPtr k v s).1).wf k = true := by
  cases v with
  | nones lvl =>
    simp [PV.wf] at h
    have : k.opts ≠ 0 := by omega
    simp [intoPtr, fromPtr, PV.wf, this]; omega
  | full t =>
    cases t with
    | none =>
      simp [PV.wf] at h
      simp only [intoPtr, fromPtr]
      split <;> simp [PV.wf, h]; omega
    | some n => simp [intoPtr, fromPtr, PV.wf]

/-- **Borrowing** the raw pointer gives the address conversion would give, and touches no count. -/
theorem C15_as_ptr (k : Kind) (v : PV) (s : St) :
    (asPtr k v s).1 = (intoPtr k v s).1 ∧ (asPtr k v s).2 = s := by
  cases v <;> simp [asPtr, intoPtr]

/-- **Increment** adds exactly one reference to the target — strong for `Arc`/`Rc`, weak for the
    `Weak` kinds — nothing else changes, and it returns the target's address. -/
theorem C15_inc (k : Kind) (n : Nat) (s : St) :
    let r := inc k (.full (some n)) s
    r.1 = some n ∧
    (k.base.isWeak = false → r.2.strong n = s.strong n + 1 ∧ r.2.weak = s.weak ∧
        ∀ m, m ≠ n → r.2.strong m = s.strong m) ∧
    (k.base.isWeak = true → r.2.weak n = s.weak n + 1 ∧ r.2.strong = s.strong ∧
        ∀ m, m ≠ n → r.2.weak m = s.weak m) := by
  simp only [inc, intoPtr, cloneV, cloneBase]
  refine ⟨trivial, ?_, ?_⟩
  all_goals intro hw; simp [hw, updN]; intro m hm; simp [hm]

/-- **Decrement** removes exactly one. -/
theorem C15_dec (k : Kind) (n : Nat) (s : St) :
    let s' := dec k (some n) s
    (k.base.isWeak = false → s'.strong n = s.strong n - 1 ∧ s'.weak = s.weak ∧
        ∀ m, m ≠ n → s'.strong m = s.strong m) ∧
    (k.base.isWeak = true → s'.weak n = s.weak n - 1 ∧ s'.strong = s.strong ∧
        ∀ m, m ≠ n → s'.weak m = s.weak m) := by
  simp only [dec, fromPtr, dropV, dropBase]
  refine ⟨?_, ?_⟩
  all_goals intro hw; simp [hw, updN]; intro m hm; simp [hm]

theorem updN_cancel (f : Nat → Nat) (n : Nat) : updN (updN f n (f n + 1)) n (updN f n (f n + 1) n - 1) = f := by
  funext j; by_cases hj : j = n <;> simp [hj, updN]

/-- increment followed by decrement of the returned pointer is the identity on the counts -/
theorem C15_inc_dec (k : Kind) (v : PV) (s : St) (h : v.wf k = true) :
    dec k (inc k v s).1 (inc k v s).2 = s := by
  cases v with
  | nones lvl =>
    simp [PV.wf] at h
    have : k.opts ≠ 0 := by omega
    simp [inc, dec, intoPtr, cloneV, fromPtr, dropV, this]
  | full t =>
    cases t with
    | none =>
      simp only [inc, dec, intoPtr, cloneV, cloneBase, fromPtr]
      split <;> simp [dropV, dropBase]
    | some n =>
      simp only [inc, dec, intoPtr, cloneV, cloneBase, fromPtr, dropV, dropBase]
      cases k.base.isWeak <;> simp only [Bool.false_eq_true, ↓reduceIte, updN_cancel]

/-- **The empty cases** (`None` at any depth, a dangling `Weak`) are the null pointer, null maps
    back to an empty value, and nothing is ever counted or dereferenced for them. -/
theorem C15_empty (k : Kind) (v : PV) (s : St) (hv : v.target = none) (hwf : v.wf k = true) :
    (intoPtr k v s).1 = none ∧ (asPtr k v s).1 = none ∧ (inc k v s) = (none, s) ∧ dec k none s = s ∧
    (fromPtr k none).target = none := by
  cases v with
  | nones lvl =>
    simp [intoPtr, asPtr, inc, cloneV, dec, fromPtr, PV.target]
    split <;> simp [dropV, dropBase]
  | full t =>
    cases t with
    | none =>
      simp [intoPtr, asPtr, inc, cloneV, cloneBase, dec, fromPtr, PV.target]
      split <;> simp [dropV, dropBase]
    | some n => simp [PV.target] at hv

/-- **A container of `Weak` does not keep its target alive**: no trait method of a weak kind ever
    changes a strong count, so the strong count can reach zero (the value is dropped) while the
    pointer is stored. -/
theorem C15_weak_not_owner (k : Kind) (hw : k.base.isWeak = true) (v : PV) (p : Raw) (s : St) :
    (intoPtr k v s).2.strong = s.strong ∧ (asPtr k v s).2.strong = s.strong ∧
    (inc k v s).2.strong = s.strong ∧ (dec k p s).strong = s.strong := by
  refine ⟨?_, ?_, ?_, ?_⟩
  · cases v <;> rfl
  · cases v <;> rfl
  · cases v with
    | nones l => rfl
    | full t => cases t <;> simp [inc, intoPtr, cloneV, cloneBase, hw]
  · cases p with
    | none => simp only [dec, fromPtr]; split <;> simp [dropV, dropBase]
    | some n => simp [dec, fromPtr, dropV, dropBase, hw]

/-- the sentinel `Debt::NONE` can be neither null nor the address of a counted allocation -/
theorem C15_sentinel : Consts.debtNone % 2 = 1 ∧ Consts.debtNone ≠ 0 ∧ Consts.debtNone < 4096 :=
  Consts.debtNone_ok

/-- non-vacuity: a shared `Option<Arc>` and a dangling `Option<Weak>` are well-formed values -/
example : (PV.full (some 1)).wf ⟨.arc, 1⟩ = true ∧ (PV.full none).wf ⟨.weakArc, 1⟩ = true ∧
    (PV.nones 1).wf ⟨.rc, 2⟩ = true := by decide +kernel

end C15
