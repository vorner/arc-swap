import ArcSwapModel.AccessM
import ArcSwapModel.Tie.AccDerefLoad
import ArcSwapModel.Tie.AccDyn1Load
import ArcSwapModel.Tie.AccDyn2Load
import ArcSwapModel.Tie.AccDyn3Load
import ArcSwapModel.Tie.AccArcSwapLoad
import ArcSwapModel.Tie.AccDirectArcDeref
import ArcSwapModel.Tie.AccDirectArcLoad
import ArcSwapModel.Tie.AccDirectRcDeref
import ArcSwapModel.Tie.AccDirectRcLoad
import ArcSwapModel.Tie.AccDynGuardDeref
import ArcSwapModel.Tie.AccDynAccessLoad
import ArcSwapModel.Tie.AccConvertLoad
import ArcSwapModel.Tie.AccMapGuardDeref
import ArcSwapModel.Tie.AccMapNew
import ArcSwapModel.Tie.AccMapLoad
import ArcSwapModel.Tie.AccConstantDeref
import ArcSwapModel.Tie.AccConstantLoad
import ArcSwapModel.Tie.LibMap
import ArcSwapModel.Tie.LibGuardDeref
import ArcSwapModel.Tie.LibLoad
import ArcSwapModel.Tie.AutoTraitsTable
import ArcSwapModel.AutoTraits

/-!
# C17 — Access/Map projections: one consistent snapshot per guard, fresh per load
-/

namespace C17
open AccessM

/-- **One snapshot**: whatever is stored after the guard was created (the later content `later` is
    not even an argument of `view`), a guard dereferences to the projection chain applied to the
    one value the container's `load` returned when it was created — for any chain depth, through
    pointers, `dyn` and `AccessConvert`. -/
theorem C17_one_snapshot (a : Acc) (cur : Val) : view (load cur a) = chain a cur := by
  induction a <;> simp_all [load, view, chain]

/-- **Fresh per load**: a load performs exactly one load of the underlying container (none for a
    constant), so by C03 a load started after a completed store projects that store's value or a
    later one; here: the guard of a load made when the container holds `cur` projects `cur`. -/
theorem C17_single_load (a : Acc) : loads a ≤ 1 := by
  induction a <;> simp_all [loads]

theorem C17_fresh (a : Acc) (old cur : Val) : view (load cur a) = chain a cur ∧
    (loads a = 0 → view (load cur a) = view (load old a)) := by
  refine ⟨C17_one_snapshot a cur, ?_⟩
  induction a <;> simp_all [loads, load, view]

/-- **Static and dynamic dispatch agree.** -/
theorem C17_dispatch (a : Acc) (cur : Val) : view (load cur a) = view (load cur (static a)) := by
  rw [C17_one_snapshot, C17_one_snapshot]
  induction a <;> simp_all [static, chain]

/-- **`Constant` always yields its own value.** -/
theorem C17_constant (v cur : Val) : view (load cur (.const v)) = v := rfl

/-- the guard keeps its snapshot: in the source, `MapGuard` *owns* the inner guard (field `guard: G`)
    next to the projection, and `DynGuard` owns the boxed guard — read off the struct table the
    current source gives (`Tie.AutoTraitsTable.table_tie`) -/
def fieldNames (name : String) : List String :=
  match AutoTraits.structDef name with
  | some sd => (sd.kid 3).kids.filterMap fun f => (f.kid 0).atom?
  | none => []

theorem mapguard_owns_guard : fieldNames "MapGuard" = ["guard", "projection", "_t"] ∧
    fieldNames "Map" = ["access", "projection", "_t"] ∧ fieldNames "DynGuard" = ["0"] := by decide +kernel

example : view (load (.node (.node (.leaf 1) (.leaf 2)) (.leaf 3)) (.dyn (.map (.ptr (.map .cell .fst)) .snd))) = .leaf 2 := by
  decide +kernel

end C17
