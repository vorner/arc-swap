import ArcSwapModel.Props.C03
import ArcSwapModel.Props.C05

/-!
# C12 — containers are isolated although they share per-thread borrow slots
(partial: what an operation on one container can do to another one; the exact counts for a value
stored in several containers are the accounting invariant, C02)

All containers share the node list, but every sub-machine takes the container it works for as a
parameter `c`, and:
* it **writes** no cell and no write history but `c`'s own (and the read path and the debt walk
  write none at all);
* a reader returns, on the direct paths, only a value it read from cell `c` itself during the call
  (`C03_load_window_partial`; the defect D5 — a stale fast debt paid, through address reuse, by a
  writer of *another* container — is repaired and its schedule kept in the corpus);
* a writer of `c` offers a replacement to a reader only after reading, from that reader's node, the
  address of the very cell `c` (`help` compares `active_addr` with its own storage address and
  otherwise leaves the reader alone), and the offer is a compare-exchange on the generation it read.
-/

namespace C12
open M Consts

/-- an operation on container `c` never changes the content or the write order of another one -/
theorem cas_other_container_untouched (cfg : Cfg) (c cur new : Nat) (s : Shared) (l : Locals) (b : Bool)
    (cp : CP) (c' : Nat) (hne : c' ≠ c) :
    (stepCP cfg c cur new s l b cp).1.cells c' = s.cells c' ∧
    (stepCP cfg c cur new s l b cp).1.hist c' = s.hist c' := by
  have of_frame : ∀ {x : Shared}, x.cells = s.cells ∧ x.hist = s.hist → x.cells c' = s.cells c' ∧ x.hist c' = s.hist c' :=
    fun h => ⟨by rw [h.1], by rw [h.2]⟩
  cases cp with
  | load ld => rw [stepCP_load]; exact of_frame (stepLP_frame cfg c s l b ld)
  | pay old pp => rw [stepCP_pay]; exact of_frame (stepPP_frame cfg old.ptr c s l b pp)
  | dropOld gd => rw [stepCP_dropOld]; exact of_frame (stepGD_frame s gd)
  | cx old =>
    simp only [stepCP]
    (repeat' split) <;>
      first | exact ⟨rfl, rfl⟩ | exact ⟨upd_other _ _ _ _ hne, upd_other _ _ _ _ hne⟩ | exact of_frame ⟨setFault_cells _ _, setFault_hist _ _⟩
  | dropNew old | decOld old => exact of_frame ⟨decObj_cells _ _, decObj_hist _ _⟩
  | done old => exact ⟨rfl, rfl⟩

/-- loads and debt walks on behalf of `c` write no cell at all — not even `c`'s -/
theorem read_and_walk_write_nothing (cfg : Cfg) (p c : Nat) (s : Shared) (l : Locals) (b : Bool) (lp : LP) (pp : PP) :
    (stepLP cfg c s l b lp).1.cells = s.cells ∧ (stepPP cfg p c s l b pp).1.cells = s.cells :=
  ⟨(stepLP_frame cfg c s l b lp).1, (stepPP_frame cfg p c s l b pp).1⟩

/-- the writer of `c` helps a reader only if that reader published `c`'s own address: when the
    published address is another container's, the writer produces no replacement for it -/
theorem helper_checks_address (cfg : Cfg) (p c : Nat) (s : Shared) (l : Locals) (b : Bool) (h : HL)
    (hother : (s.nodes h.who).activeAddr ≠ some c) :
    (stepPP cfg p c s l b (.h2 h)).2.2.1 = .h3 h := by
  have : ((if h.own = h.who then s.setFault (Fault.debugAssert "helping::help: refusing to help myself") else s).nodes
      h.who).activeAddr = (s.nodes h.who).activeAddr := by split <;> simp
  simp [stepPP, this, hother]

/-- … and then only re-reads the control word and, if it is unchanged, leaves that reader alone -/
theorem helper_leaves_other_readers (cfg : Cfg) (p c : Nat) (s : Shared) (l : Locals) (b : Bool) (h : HL)
    (hsame : (s.nodes h.who).control = h.ctl) :
    (stepPP cfg p c s l b (.h3 h)).2.2.1 = .hend h ∧ (stepPP cfg p c s l b (.h3 h)).1.nodes = s.nodes := by
  simp [stepPP, hsame]

/-- the replacement a helper offers was loaded from `c` itself (the nested load is a load *of `c`*) -/
theorem replacement_comes_from_own_container (cfg : Cfg) (p c : Nat) (s : Shared) (l : Locals) (b : Bool)
    (h : HL) (ld : LP) :
    ∃ x, x = stepLP cfg c s l b ld ∧
      ((stepPP cfg p c s l b (.hload h ld)).1 = x.1) := by
  exact ⟨_, rfl, by rw [stepPP_hload]⟩

/-- the offer can land only on the generation the helper read (a compare-exchange on that value) -/
theorem offer_is_conditional (cfg : Cfg) (p c : Nat) (s : Shared) (l : Locals) (b : Bool) (h : HL) (r t m : Nat)
    (hchg : (s.nodes h.who).control ≠ h.ctl) :
    (stepPP cfg p c s l b (.h7 h r t m)).1.nodes = s.nodes := by
  simp [stepPP, hchg]

/-- a reader never returns, on the direct paths, a value that was only stored elsewhere -/
theorem reader_value_from_own_cell (cfg : Cfg) (c : Nat) (adv : List (Shared × Bool)) (l : Locals)
    (hadv : ∀ sb ∈ adv, C03.EnvOk c sb.1) (p : Nat) (d : Option (Nat × Nat))
    (hdone : (C03.runT cfg c adv ⟨l, .start, [], false⟩).lp = .done p d)
    (hnot : (C03.runT cfg c adv ⟨l, .start, [], false⟩).helped = false) :
    some p ∈ (C03.runT cfg c adv ⟨l, .start, [], false⟩).seen :=
  C03.C03_load_window_partial cfg c adv l hadv p d hdone hnot

example : ∃ s : Shared, (s.nodes 0).activeAddr ≠ some 1 := ⟨{}, by simp⟩

end C12
