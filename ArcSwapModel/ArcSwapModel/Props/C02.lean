import ArcSwapModel.Props.C10
import ArcSwapModel.Props.C04
import ArcSwapModel.Tie.RefCntInc
import ArcSwapModel.Tie.RefCntDec
import ArcSwapModel.Tie.HybridIntoInner
import ArcSwapModel.Tie.HybridDrop
import ArcSwapModel.Tie.HybridFallback
import ArcSwapModel.Tie.HybridAttempt
import ArcSwapModel.Tie.DebtPayAll
import ArcSwapModel.Inv.HoldFinal
import ArcSwapModel.Inv.FaultFree

/-!
# C02 — exact ownership accounting: no leak, no double release, tight reclamation
(partial: every transfer of a reference is matched, step by step; the global sum — "at rest each
strong count equals the number of owners" — is proved along the executions of the ledger, in which no
hand-over succeeds)

A debt is turned into a reference exactly once because the two parties that can do it (the guard
returning it, a writer paying it) race on **one** compare-exchange of the slot; proved here for
every shared state:

* `pay_is_exclusive`: a pay-off that succeeds empties the slot, so a second pay-off of the same debt
  fails; one that fails changes nothing;
* the reader's side: after a failed pay-back the guard releases exactly one reference
  (`C10.drop_exact`); on promotion it first takes a reference, then pays back, and if the pay-back
  fails releases one (`promote_exact`): net effect one reference, no more, no less;
* the writer's side: the reference it hands over with each successful pay-off is replaced by
  exactly one new one before the next slot is looked at (`writer_restocks`), its initial spare is
  released at the end of the walk (`walk_releases_spare`), and after a successful
  `compare_and_swap` it drops exactly one of its two references to the replaced value;
* **tight reclamation**: the step that takes a count from 1 to 0 is the step that destroys the
  object (`destroyed_in_the_last_dec`); a count is never touched on a dead object without the
  machine entering a fault state (`count_ops_fault_on_dead`).

**Conservation, step by step, for every shared state** (`Inv/Acct.lean`): with
`potential(a) = strong count of a + number of debt slots naming a` and `units` the references a
program counter accounts for (a published debt counts one), *every* step of `load` (both paths),
guard drop, `Guard::into_inner`, the writer's walk with helping, `compare_and_swap` and `rcu`
changes the potential (and what the containers hold) by exactly the change of the stepping thread's
units — `C02_load_conserves`, `C02_guard_drop_conserves`, `C02_promotion_conserves`,
`C02_walk_conserves`, `C02_cas_conserves`, `C02_rcu_conserves`.  No reference is created or lost by
any step, whatever other threads have done; the only steps that move a reference between threads
other than through a slot are the two ends of a hand-over, which move exactly the replacement
(`C02_handover_gives`, `C02_handover_receives`).  Lifted to whole operations with the registers on
the owners' side (`C02_step_conserves`: every micro-step of every thread) and to whole executions
(`C02_global_ledger`: along every execution all of whose steps satisfy `StepOK`, for every value,
strong count + debt slots naming it = containers + handles + guards denoting it + units of the
operations in flight; `C02_quiescent_counts`: with no operation in flight and no slot naming the value the
strong count is exactly the number of owners; `C02_at_rest_counts` proves the slots part too, from
`C02_fast_slot_has_a_holder` and `C02_helping_slot_has_a_holder`: every occupied debt slot has a holder).  The local well-formedness part of `StepOK` (slot
indices in range, the thread's node exists and is below `K`, nodes beyond `nNodes` untouched, a
compare-and-swap's guard denotes `current`, guards in registers well-formed) is proved invariant
(`Inv/AcctWf.lean`, `Inv/AcctNode.lean`, `Wf.step`), so that `C02_global_ledger_env` assumes only
`EnvOK`: about the program (registers are not raced on, `mk` creates fresh containers), the pool
(not exhausted), a bound `K` on the nodes ever linked, that no hand-over succeeds (no control word
ever holds an envelope; the pair of ends is stated separately) and that no fault is raised.

The harness checks the global statement on every execution: at quiescence (all handles, guards and
containers dropped) no object is alive, no count underflowed, every slot is `NONE` — and compares
every count event with the machine's.
-/

namespace C02
open M Consts

/-- one compare-exchange decides: success empties the slot; failure changes nothing -/
theorem pay_is_exclusive (s : Shared) (p n idx : Nat) :
    ((s.nodes n).fast idx = .ptr p →
        ((stepGD s (.pay p n idx)).1.nodes n).fast idx = .none ∧ (stepGD s (.pay p n idx)).2.1 = .done) ∧
    ((s.nodes n).fast idx ≠ .ptr p → (stepGD s (.pay p n idx)).1 = s) := by
  constructor
  · intro h; simp [stepGD, h, Shared.setNode, upd]
  · intro h; simp [stepGD, h]

/-- promotion (`Guard::into_inner`, `load_full`): take one, pay back, release one iff already paid -/
theorem promote_exact (s : Shared) (p n idx : Nat) (hp : p ≠ 0) :
    GI.ofGuard { ptr := p, debt := some (n, idx) } = .inc p n idx ∧
    (stepGI s (.inc p n idx)).2.1 = .pay p n idx ∧
    ((s.nodes n).fast idx = .ptr p → (stepGI s (.pay p n idx)).2.1 = .done) ∧
    ((s.nodes n).fast idx ≠ .ptr p → (stepGI s (.pay p n idx)).2.1 = .dec p) := by
  refine ⟨by simp [GI.ofGuard, hp], by simp [stepGI], ?_, ?_⟩
  · intro h; simp [stepGI, h]
  · intro h; simp [stepGI, h, hp]

/-- the count operations: exactly one up, exactly one down -/
theorem inc_exact (s : Shared) (a : Nat) (h : (s.heap a).live = true) :
    ((incObj s a).1.heap a).cnt = (s.heap a).cnt + 1 ∧ ∀ b, b ≠ a → (incObj s a).1.heap b = s.heap b := by
  simp [incObj, h, upd]
  intro b hb; simp [hb]

theorem dec_exact (s : Shared) (a : Nat) (h : (s.heap a).live = true) (hc : 1 < (s.heap a).cnt) :
    ((decObj s a).1.heap a).cnt = (s.heap a).cnt - 1 ∧ ((decObj s a).1.heap a).live = true ∧
    ∀ b, b ≠ a → (decObj s a).1.heap b = s.heap b := by
  have h0 : (s.heap a).cnt ≠ 0 := by omega
  have h1 : (s.heap a).cnt ≠ 1 := by omega
  simp [decObj, h, h0, h1, upd]
  intro b hb; simp [hb]

/-- **tight reclamation**: the object is destroyed in the very step that releases its last reference -/
theorem destroyed_in_the_last_dec (s : Shared) (a : Nat) (h : (s.heap a).live = true) (hc : (s.heap a).cnt = 1) :
    ((decObj s a).1.heap a).live = false ∧ ((decObj s a).1.heap a).cnt = 0 := by
  simp [decObj, h, hc, upd]

/-- touching the count of a destroyed object is a fault of the machine, never silently absorbed -/
theorem count_ops_fault_on_dead (s : Shared) (a : Nat) (h : (s.heap a).live = false) (hf : s.fault = none) :
    (incObj s a).1.fault = some (.uaf "inc" a) ∧ (decObj s a).1.fault = some (.uaf "dec" a) := by
  simp [incObj, decObj, h, setFault_fault_of_none, hf]

/-- the writer replaces each reference it hands over before it looks at the next slot -/
theorem writer_restocks (cfg : Cfg) (p c : Nat) (s : Shared) (l : Locals) (b : Bool) (n j : Nat)
    (hp : p ≠ 0) (hj : j < slotCnt) (hm : (s.nodes n).fast j = .ptr p) :
    (stepPP cfg p c s l b (.slot n j)).2.2.1 = .slotInc n j ∧
    (stepPP cfg p c s l b (.slotInc n j)).2.2.1 = PP.nextSlot n j := by
  simp [stepPP, hj, hm, hp]

/-- … and releases its initial spare when the walk is over -/
theorem walk_releases_spare (cfg : Cfg) (p c : Nat) (s : Shared) (l : Locals) (b : Bool) (hp : p ≠ 0) :
    (stepPP cfg p c s l b .fin).2.2.1 = .dec ∧ (stepPP cfg p c s l b .dec).2.2.1 = .done := by
  simp [stepPP, hp]

/-- after a successful exchange `compare_and_swap` holds two references to the replaced value (the
    one from the cell, the guard's) and drops exactly one -/
theorem cas_drops_one (cfg : Cfg) (c cur new : Nat) (s : Shared) (l : Locals) (b : Bool) (old : Guard)
    (hp : old.ptr ≠ 0) :
    (stepCP cfg c cur new s l b (.decOld old)).2.2.1 = .done old := by
  simp [stepCP]

example : ((decObj { heap := fun _ => { live := true, cnt := 1 } } 3).1.heap 3).live = false := by
  simp [decObj, upd]

/-! ## Conservation (see the header) -/

theorem C02_load_conserves (K : Nat) (cfg : Cfg) (c : Nat) (s : Shared) (l : Locals) (b : Bool) (lp : LP)
    (hk : lp.ok K) (hn : l.node.getD 0 < K) (hb : Beyond s) (hf : (stepLP cfg c s l b lp).1.fault = none) :
    Cons K s (stepLP cfg c s l b lp).1 (uLP lp) (uLP (stepLP cfg c s l b lp).2.2.1) :=
  stepLP_cons K cfg c s l b lp hk hn hb hf

theorem C02_guard_drop_conserves (K : Nat) (s : Shared) (gd : GD) (hk : gd.ok K) (hf : (stepGD s gd).1.fault = none) :
    Cons K s (stepGD s gd).1 (uGD gd) (uGD (stepGD s gd).2.1) :=
  stepGD_cons K s gd hk hf

theorem C02_promotion_conserves (K r : Nat) (s : Shared) (gi : GI) (hk : gi.ok K r)
    (hf : (stepGI s gi).1.fault = none) : Cons K s (stepGI s gi).1 (uGI r gi) (uGI r (stepGI s gi).2.1) :=
  stepGI_cons K r s gi hk hf

theorem C02_walk_conserves (K : Nat) (cfg : Cfg) (p c : Nat) (s : Shared) (l : Locals) (b : Bool) (pp : PP)
    (hk : pp.ok K) (hn : l.node.getD 0 < K) (hb : Beyond s) (hK : s.nNodes ≤ K)
    (hnh : ∀ h r t m, pp = .h7 h r t m → (s.nodes h.who).control ≠ h.ctl)
    (hf : (stepPP cfg p c s l b pp).1.fault = none) :
    Cons K s (stepPP cfg p c s l b pp).1 (uPP p pp) (uPP p (stepPP cfg p c s l b pp).2.2.1) :=
  stepPP_cons K cfg p c s l b pp hk hn hb hK hnh hf

theorem C02_cas_conserves (K N : Nat) (cfg : Cfg) (c cur new : Nat) (s : Shared) (l : Locals) (b : Bool) (cp : CP)
    (hk : cp.ok K cur) (hn : l.node.getD 0 < K) (hc : c < N) (hb : Beyond s) (hK : s.nNodes ≤ K)
    (hnh : ∀ old h r t m, cp = .pay old (.h7 h r t m) → (s.nodes h.who).control ≠ h.ctl)
    (hf : (stepCP cfg c cur new s l b cp).1.fault = none) :
    ConsC K N s (stepCP cfg c cur new s l b cp).1 (uCP new cp) (uCP new (stepCP cfg c cur new s l b cp).2.2.1) :=
  stepCP_cons K N cfg c cur new s l b cp hk hn hc hb hK hnh hf

theorem C02_rcu_conserves (K N : Nat) (cfg : Cfg) (c : Nat) (s : Shared) (l : Locals) (b : Bool) (tries : Nat) (rp : RP)
    (hk : rp.ok K) (hn : l.node.getD 0 < K) (hc : c < N) (hb : Beyond s) (hK : s.nNodes ≤ K)
    (hnh : ∀ cur a old h r t m, rp = .cas cur a (.pay old (.h7 h r t m)) → (s.nodes h.who).control ≠ h.ctl)
    (hroom : ∀ cur, rp = .attempt cur → ∀ v, (s.heap (alloc s v).2.1).cnt = 0)
    (hf : (stepRP cfg c s l b tries rp).1.fault = none) :
    ConsC K N s (stepRP cfg c s l b tries rp).1 (uRP rp) (uRP (stepRP cfg c s l b tries rp).2.2.1) :=
  stepRP_cons K N cfg c s l b tries rp hk hn hc hb hK hnh hroom hf

theorem C02_handover_gives (K : Nat) (cfg : Cfg) (p c : Nat) (s : Shared) (l : Locals) (b : Bool)
    (h : HL) (r t m : Nat) (hx : (s.nodes h.who).control = h.ctl) (a : Nat) :
    pot K (stepPP cfg p c s l b (.h7 h r t m)).1 a + uPP p (.h7 h r t m) a
      = pot K s a + uPP p (stepPP cfg p c s l b (.h7 h r t m)).2.2.1 a + u r a :=
  stepPP_handover_gives K cfg p c s l b h r t m hx a

theorem C02_handover_receives (K : Nat) (cfg : Cfg) (c : Nat) (s : Shared) (l : Locals) (b : Bool)
    (cand j r : Nat) (he : (s.nodes j).envelope = .ptr r) (a : Nat) :
    pot K (stepLP cfg c s l b (.fr1 cand j)).1 a + uLP (.fr1 cand j) a + u r a
      = pot K s a + uLP (stepLP cfg c s l b (.fr1 cand j)).2.2.1 a :=
  stepLP_handover_receives K cfg c s l b cand j r he a

/-- every micro-step of every thread conserves: potential, registers, the thread's units -/
theorem C02_step_conserves (K N : Nat) (st : State) (t : Nat) (b : Bool)
    (hk : (st.th t).op.ok K N st.sh) (hn : (st.th t).loc.node.getD 0 < K) (hb : Beyond st.sh)
    (hK : st.sh.nNodes ≤ K)
    (hnh : ∀ h r x m, (st.th t).op.pp? = some (.h7 h r x m) → (st.sh.nodes h.who).control ≠ h.ctl)
    (hroom : ∀ v, (st.sh.heap (alloc st.sh v).2.1).cnt = 0)
    (hnext : ∀ txt o rest, (st.th t).prog = (txt, o) :: rest →
      o.below N ∧ (∀ c h, o = .mk c h → st.sh.cells c = none))
    (hf : (microStep st t b).1.sh.fault = none) :
    TCons K N st.sh (microStep st t b).1.sh (uOp (st.th t).op) (uOp ((microStep st t b).1.th t).op) :=
  microStep_cons K N st t b hk hn hb hK hnh hroom hnext hf

/-- **the global sum (conditional on `StepOK` for every step)** -/
theorem C02_global_ledger (K N T : Nat) (cfg : Cfg) (progs : Nat → List (String × Op)) (sched : List (Nat × Bool))
    (hg : GoodRun K N T (State.initial cfg progs) sched) :
    Ledger K N T (run (State.initial cfg progs) sched) :=
  C02_ledger K N T cfg progs sched hg

theorem C02_quiescent_counts {K N T : Nat} {st : State} (h : Ledger K N T st)
    (hidle : ∀ t, t < T → uOp (st.th t).op = fun _ => 0)
    (a : Nat) (ha : a ≠ 0)
    (hslots : ∀ n i, (st.sh.nodes n).fast i ≠ .ptr a ∧ (st.sh.nodes n).hslot ≠ .ptr a) :
    (st.sh.heap a).cnt = st.sh.regs N a :=
  h.quiescent hidle a ha hslots

/-- **the global sum**, assuming only `EnvOK` of every step: program discipline (registers are not
    raced on, `mk` creates fresh containers), the pool is not exhausted, `K` bounds the nodes ever
    linked, no hand-over succeeds, no fault is raised.  The local well-formedness of program
    counters and guards is proved invariant (`Wf.step`). -/
theorem C02_global_ledger_env (K N T : Nat) (hK : 0 < K) (cfg : Cfg) (progs : Nat → List (String × Op))
    (sched : List (Nat × Bool)) (he : EnvRun K N T (State.initial cfg progs) sched) :
    Ledger K N T (run (State.initial cfg progs) sched) :=
  C02_ledger_env K N T hK cfg progs sched he

/-- **every occupied fast slot has a holder** — a guard in a register whose debt is that slot, or an
    operation in flight that carries such a guard or has published the debt and not yet confirmed
    it — in the end state of every execution that keeps the register discipline and raises no
    fault.  ("No borrow slot stays occupied after its guard is gone.") -/
theorem C02_fast_slot_has_a_holder {K N T : Nat} (cfg : Cfg) (progs : Nat → List (String × Op))
    (sched : List (Nat × Bool)) (he : EnvRun0 K N T (State.initial cfg progs) sched)
    (hf : (run (State.initial cfg progs) sched).sh.fault = none) :
    HoldInv (run (State.initial cfg progs) sched) :=
  holdInv_of_env cfg progs sched he hf

/-- **every occupied helping slot has a holder**: the owner's load between `confirm` and `pay` —
    in every reachable state without a fault, no assumption on the program -/
theorem C02_helping_slot_has_a_holder {st : State} (h : Reachable st) (hf : st.sh.fault = none) : HHoldInv st :=
  HHoldInv.reachable h hf

/-- **at rest**: every thread between operations, no register guard with a debt — then no debt slot
    of any node names a value and every strong count is exactly the number of owners -/
theorem C02_at_rest_counts (K N T : Nat) (hK : 0 < K) (cfg : Cfg) (progs : Nat → List (String × Op))
    (sched : List (Nat × Bool)) (he : EnvRun0 K N T (State.initial cfg progs) sched)
    (hf : (run (State.initial cfg progs) sched).sh.fault = none)
    (hidle : ∀ t, ((run (State.initial cfg progs) sched).th t).op = .idle ∨
      ((run (State.initial cfg progs) sched).th t).op = .finished)
    (hg : ∀ g gd, (run (State.initial cfg progs) sched).sh.greg g = some gd → gd.debt = none) :
    (∀ n i a, ((run (State.initial cfg progs) sched).sh.nodes n).fast i ≠ .ptr a ∧
        ((run (State.initial cfg progs) sched).sh.nodes n).hslot ≠ .ptr a) ∧
      ∀ a, a ≠ 0 → ((run (State.initial cfg progs) sched).sh.heap a).cnt =
        (run (State.initial cfg progs) sched).sh.regs N a :=
  C02_at_rest K N T hK cfg progs sched he hf hidle hg

/-- **the global sum, without assuming that no fault is raised.**  `env_run_fault_free`
    (`Inv/FaultFree`): an execution that keeps the program discipline, has room in the pool, links at
    most `K` nodes and in which no hand-over succeeds raises no fault at all — so the ledger holds in
    its end state: strong count + debt slots naming the value = containers + handles + guards
    denoting it + units of the operations in flight. -/
theorem C02_global_ledger_no_fault_assumed_partial (K N T : Nat) (hK : 0 < K) (cfg : Cfg)
    (progs : Nat → List (String × Op)) (sched : List (Nat × Bool))
    (he : EnvRun0 K N T (State.initial cfg progs) sched) :
    Ledger K N T (run (State.initial cfg progs) sched) :=
  C02_ledger_final K N T hK cfg progs sched he (env_run_fault_free K N T hK cfg progs sched he)

/-- **at rest, without assuming that no fault is raised**: every thread between operations, no
    register guard with a debt — then no debt slot of any node names a value and every strong count
    is exactly the number of owners -/
theorem C02_at_rest_counts_no_fault_assumed_partial (K N T : Nat) (hK : 0 < K) (cfg : Cfg)
    (progs : Nat → List (String × Op)) (sched : List (Nat × Bool))
    (he : EnvRun0 K N T (State.initial cfg progs) sched)
    (hidle : ∀ t, ((run (State.initial cfg progs) sched).th t).op = .idle ∨
      ((run (State.initial cfg progs) sched).th t).op = .finished)
    (hg : ∀ g gd, (run (State.initial cfg progs) sched).sh.greg g = some gd → gd.debt = none) :
    (∀ n i a, ((run (State.initial cfg progs) sched).sh.nodes n).fast i ≠ .ptr a ∧
        ((run (State.initial cfg progs) sched).sh.nodes n).hslot ≠ .ptr a) ∧
      ∀ a, a ≠ 0 → ((run (State.initial cfg progs) sched).sh.heap a).cnt =
        (run (State.initial cfg progs) sched).sh.regs N a :=
  C02_at_rest K N T hK cfg progs sched he (env_run_fault_free K N T hK cfg progs sched he) hidle hg

/-- **no double free and no count operation on a destroyed object, ever** along such executions -/
theorem C02_no_double_free_partial (K N T : Nat) (hK : 0 < K) (cfg : Cfg)
    (progs : Nat → List (String × Op)) (sched : List (Nat × Bool))
    (he : EnvRun0 K N T (State.initial cfg progs) sched) (a : Nat) (what : String) :
    (run (State.initial cfg progs) sched).sh.fault ≠ some (.doubleFree a) ∧
      (run (State.initial cfg progs) sched).sh.fault ≠ some (.uaf what a) := by
  rw [env_run_fault_free K N T hK cfg progs sched he]
  exact ⟨(fun h => by cases h), (fun h => by cases h)⟩

/-- non-vacuity: the local well-formedness assumed by the conservation theorems holds of concrete
    program counters on both read paths and of a compare-and-swap about to exchange; and a concrete
    step really moves a unit: publishing a debt raises the potential of exactly that address by one -/
example : (LP.a3 5 2).ok 1 ∧ (LP.f4 8 5).ok 1 ∧ True ∧ (CP.cx { ptr := 5, debt := some (0, 2) }).ok 1 5 := by
  refine ⟨?_, trivial, trivial, rfl, ?_⟩
  · show 2 < Consts.slotCnt; decide
  · intro n idx h; simp only [Option.some.injEq, Prod.mk.injEq] at h
    obtain ⟨rfl, rfl⟩ := h
    exact ⟨by decide, by decide⟩

example : pot 1 (stepLP {} 0 {} { node := some 0 } false (.pswap 5 2)).1 5 = pot 1 {} 5 + 1 := by
  decide +kernel

end C02
