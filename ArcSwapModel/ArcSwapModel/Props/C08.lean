import ArcSwapModel.M.Step
import ArcSwapModel.Tie.HybridLoad
import ArcSwapModel.Tie.HybridAttempt
import ArcSwapModel.Tie.HybridFallback
import ArcSwapModel.Tie.HybridIntoInner
import ArcSwapModel.Tie.FastGetDebt
import ArcSwapModel.Tie.HelpingGetDebt
import ArcSwapModel.Tie.HelpingConfirm
import ArcSwapModel.Tie.HelpingWrapsNext
import ArcSwapModel.Tie.ListNewFast
import ArcSwapModel.Tie.ListNewHelping
import ArcSwapModel.Tie.ListConfirmHelping
import ArcSwapModel.Tie.ListWith
import ArcSwapModel.Tie.DebtPay
import ArcSwapModel.Tie.LibLoad
import ArcSwapModel.Tie.LibLoadFull
import ArcSwapModel.Tie.LibGuardIntoInner

/-!
# C08 — reads are wait-free

`load` (and `load_full`) of a thread that already owns a node, in a call that does not wrap the
transaction counter, finishes within `B = slotCnt + 17` of the caller's own steps, *whatever the
shared state is before each of them*: the bound is proved against an adversary that may replace
the whole shared state (cells, slots, control words, counts, list) arbitrarily between any two
reader steps — this includes a writer completing any number of writes between every two steps,
every other thread being suspended forever, and any number of guards already held.

The two hypotheses are the property's own ("a thread that has already used the crate") and the
documentation's (the call that wraps the counter goes through `Node::get`, which walks a list of
unbounded length and has a compare-exchange loop on the list head: lock-free only).
-/

namespace C08
open M Consts

/-- Remaining own steps of a load, as a function of the reader's program counter only. -/
def fuel : LP → Nat
  | .start => slotCnt + 18
  | .a1 => slotCnt + 17
  | .nfDbg _ => slotCnt + 16
  | .probe _ i => (slotCnt - i) + 15
  | .pswap _ _ => 15
  | .a3 _ _ => 14
  | .a4 _ _ => 13
  | .a4dec _ => 12
  | .nhDbg => 11
  | .f1 => 10
  | .f2 _ => 9
  | .f3 _ => 8
  | .chDbg _ _ => 7
  | .f4 _ _ => 6
  | .f5 _ _ => 5
  | .fokInc _ => 3
  | .fokPay _ => 2
  | .fokDec _ => 1
  | .fr1 _ _ => 4
  | .fr2 _ _ _ => 3
  | .frPay _ _ => 2
  | .frDec _ _ => 1
  | .done _ _ => 0
  -- the list paths are outside the bound (hypotheses below keep the reader away from them)
  | .get _ => 0
  | .cool _ => 0
  | .reget _ => 0

def onPath : LP → Bool
  | .get _ | .cool _ | .reget _ => false
  | _ => true

/-- before the generation is bumped, the call must not be the wrapping one -/
def preGen : LP → Bool
  | .start | .a1 | .nfDbg _ | .probe _ _ | .pswap _ _ | .a3 _ _ | .a4 _ _ | .a4dec _ | .nhDbg => true
  | _ => false

def Good (cfg : Cfg) (l : Locals) (lp : LP) : Prop :=
  l.node.isSome = true ∧ onPath lp = true ∧ (preGen lp = true → (l.gen + genStep) % cfg.W ≠ 0) ∧
  (∀ p i, lp = .probe p i → i < slotCnt)

/-- One reader step from a good situation, in *any* shared state, stays good and burns fuel.
    No step on the path touches `node`; `gen` changes at `f1` only, and no state from there on is
    `preGen`: before the bump the no-wrap hypothesis carries over, after it there is nothing to
    carry.  The hypothesis itself is used once, at `nhDbg`, to stay off the list path. -/
theorem step_decreases (cfg : Cfg) (c : Nat) (s : Shared) (l : Locals) (spur : Bool) (lp : LP)
    (hg : Good cfg l lp) (hnd : ∀ p d, lp ≠ .done p d) :
    let r := stepLP cfg c s l spur lp
    Good cfg r.2.1 r.2.2.1 ∧ fuel r.2.2.1 < fuel lp := by
  obtain ⟨hn, hp, hw, hi⟩ := hg
  obtain ⟨_ | n, off, gen⟩ := l
  · cases hn
  have hsc := Consts.slotCnt_pos
  cases lp with
  | get | cool | reget => cases hp
  | done p d => exact absurd rfl (hnd p d)
  | nhDbg =>
    have := hw rfl
    simp only [stepLP, this, if_false]
    exact ⟨⟨rfl, rfl, nofun, nofun⟩, by simp only [fuel] <;> omega⟩
  | probe p i =>
    have := hi p i rfl
    simp only [stepLP]
    (repeat' split) <;>
      exact ⟨⟨rfl, rfl, fun _ => hw rfl, fun _ _ h => by cases h <;> assumption⟩, by simp only [fuel] <;> omega⟩
  | start | a1 | nfDbg | pswap | a3 | a4 | a4dec =>
    simp only [stepLP]
    (repeat' split) <;>
      exact ⟨⟨rfl, rfl, fun _ => hw rfl, fun _ _ h => by cases h <;> exact hsc⟩, by simp only [fuel] <;> omega⟩
  | _ =>
    simp only [stepLP]
    (repeat' split) <;> exact ⟨⟨rfl, rfl, nofun, nofun⟩, by simp only [fuel] <;> omega⟩

def isDone : LP → Bool
  | .done _ _ => true
  | _ => false

/-- Run the reader: before each of its steps the adversary supplies the shared state the step
    will see (and whether a weak compare-exchange fails spuriously). -/
def run (cfg : Cfg) (c : Nat) : List (Shared × Bool) → Locals × LP → Locals × LP
  | [], x => x
  | (s, b) :: rest, x =>
    if isDone x.2 then x
    else
      let r := stepLP cfg c s x.1 b x.2
      run cfg c rest (r.2.1, r.2.2.1)

theorem reaches_done (cfg : Cfg) (c : Nat) (adv : List (Shared × Bool)) :
    ∀ (l : Locals) (lp : LP), fuel lp ≤ adv.length → Good cfg l lp →
      isDone (run cfg c adv (l, lp)).2 = true := by
  induction adv with
  | nil =>
    intro l lp hf hg
    cases lp with
    | done => rfl
    | get | cool | reget => cases hg.2.1
    | _ => simp [fuel] at hf
  | cons a rest ih =>
    intro l lp hf hg
    obtain ⟨s, b⟩ := a
    by_cases hd : isDone lp = true
    · simp only [run, hd, if_true]
    · have := step_decreases cfg c s l b lp hg fun p d h => hd (h ▸ rfl)
      simp only [run, hd]
      exact ih _ _ (by have := this.2; simp only [List.length_cons] at hf; omega) this.1

/-- The bound in scheduling points: `start` is thread-local, every other state is one atomic
    access or one count operation. -/
def bound : Nat := slotCnt + 17

/-- **C08** (wait-freedom of `load`): a thread that owns a node, in a call that does not wrap its
    transaction counter, completes `load` within `bound + 1` machine steps (`bound` accesses) of its
    own, for every behaviour of the rest of the system, on both read paths and whatever the state
    of its slots (any number of guards held). -/
theorem C08_load_wait_free (cfg : Cfg) (c : Nat) (l : Locals) (adv : List (Shared × Bool))
    (hnode : l.node.isSome = true) (hwrap : (l.gen + genStep) % cfg.W ≠ 0)
    (hlen : bound + 1 ≤ adv.length) :
    isDone (run cfg c adv (l, .start)).2 = true :=
  reaches_done cfg c adv l .start hlen ⟨hnode, rfl, fun _ => hwrap, nofun⟩

/-- No step of the load waits: every step from a non-final state changes the program counter
    (there is no state in which the reader spins on a condition another thread must establish). -/
theorem C08_never_waits (cfg : Cfg) (c : Nat) (s : Shared) (l : Locals) (b : Bool) (lp : LP)
    (hg : Good cfg l lp) (hnd : ∀ p d, lp ≠ .done p d) :
    (stepLP cfg c s l b lp).2.2.1 ≠ lp :=
  fun h => Nat.lt_irrefl _ (h ▸ (step_decreases cfg c s l b lp hg hnd).2)

/-! ### `load_full` = `load` followed by `Guard::into_inner` -/

def fuelGI : GI → Nat
  | .inc .. => 3
  | .pay .. => 2
  | .dec _ => 1
  | .done => 0

theorem gi_step_decreases (s : Shared) (gi : GI) (h : gi ≠ .done) :
    fuelGI (stepGI s gi).2.1 < fuelGI gi := by
  cases gi with
  | done => exact absurd rfl h
  | _ => simp only [stepGI]; (repeat' split) <;> simp [fuelGI]

/-- `Guard::into_inner` after the load takes at most 3 more steps (a guard from the fallback owns its
    reference already and takes none); the sum with `bound` is not stated as one theorem about
    `load_full`. -/
theorem into_inner_fits (g : Guard) : fuelGI (GI.ofGuard g) ≤ 3 := by
  unfold GI.ofGuard
  cases g.debt with
  | none => simp [fuelGI]
  | some d => obtain ⟨n, i⟩ := d; simp only; split <;> simp [fuelGI]

/-- `succ lp x`: a step of the reader at `lp` may lead to `x`, whatever the shared state is -/
def succ : LP → LP → Prop
  | .start, x | .get _, x => (∃ ng, x = .get ng) ∨ x = .a1 ∨ x = .nhDbg
  | .a1, x => (∃ p, x = .nfDbg p) ∨ ∃ q, x = .done q none
  | .nfDbg p, x => x = .probe p 0 ∨ ∃ q, x = .done q none
  | .probe p i, x => (∃ j, x = .pswap p j) ∨ x = .probe p (i + 1) ∨ x = .nhDbg
  | .pswap p i, x => x = .a3 p i
  | .a3 p i, x => (∃ q d, x = .done q d) ∨ x = .a4 p i
  | .a4 p _, x => x = .nhDbg ∨ x = .a4dec p
  | .a4dec _, x => x = .nhDbg
  | .nhDbg, x => (∃ q, x = .done q none) ∨ (∃ cd, x = .cool cd) ∨ x = .f1
  | .cool _, x => (∃ ng, x = .reget ng) ∨ ∃ cd, x = .cool cd
  | .reget _, x => x = .f1 ∨ ∃ ng, x = .reget ng
  | .f1, x => ∃ g, x = .f2 g
  | .f2 g, x => x = .f3 g
  | .f3 g, x => (∃ p, x = .chDbg g p) ∨ ∃ q, x = .done q none
  | .chDbg g cand, x => x = .f4 g cand ∨ ∃ q, x = .done q none
  | .f4 g cand, x => x = .f5 g cand
  | .f5 _ cand, x => x = .fokPay cand ∨ x = .fokInc cand ∨ (∃ j, x = .fr1 cand j) ∨ ∃ q, x = .done q none
  | .fokInc cand, x => x = .fokPay cand
  | .fokPay cand, x => (∃ q, x = .done q none) ∨ x = .fokDec cand
  | .fokDec _, x => ∃ q, x = .done q none
  | .fr1 cand j, x => (∃ r, x = .fr2 cand j r) ∨ ∃ q, x = .done q none
  | .fr2 cand _ r, x => x = .frPay cand r
  | .frPay cand r, x => (∃ q, x = .done q none) ∨ x = .frDec cand r
  | .frDec _ _, x => ∃ q, x = .done q none
  | .done p d, x => x = .done p d

theorem stepLP_succ (cfg : Cfg) (c : Nat) (s : Shared) (l : Locals) (b : Bool) (lp : LP) :
    succ lp (stepLP cfg c s l b lp).2.2.1 := by
  cases lp with
  | get ng =>
    rw [stepLP_get]; generalize (stepNG s b ng).2.1 = y
    cases y <;> simp only [LP.afterGet, succ] <;> (try split) <;> simp
  | reget ng => rw [stepLP_reget]; generalize (stepNG s b ng).2.1 = y; cases y <;> simp [LP.afterReget, succ]
  | cool cd => rw [stepLP_cool]; generalize (stepCD s cd).2.1 = y; cases y <;> simp [LP.afterCool, succ]
  | _ => simp only [stepLP, succ] <;> (repeat' split) <;> simp

theorem done_debt_only_from_a3 (cfg : Cfg) (c : Nat) (s : Shared) (l : Locals) (b : Bool) (lp : LP)
    (p : Nat) (d : Nat × Nat) (hnd : ∀ p d, lp ≠ .done p d)
    (h : (stepLP cfg c s l b lp).2.2.1 = .done p (some d)) :
    ∃ idx, lp = .a3 p idx ∧ s.cells c = some p ∧ d = (l.node.getD 0, idx) := by
  have hs := stepLP_succ cfg c s l b lp
  rw [h] at hs
  cases lp with
  | a3 p' idx =>
    simp only [stepLP] at h
    split at h
    · rename_i q hc
      split at h
      · rename_i hq; cases h; exact ⟨idx, rfl, hq ▸ hc, rfl⟩
      · cases h
    · cases h
  | done p' d' => exact absurd rfl (hnd _ _)
  | _ => simp [succ] at hs

theorem debt_only_from_a3 (cfg : Cfg) (c : Nat) (s : Shared) (l : Locals) (b : Bool) (lp : LP)
    (p : Nat) (d : Nat × Nat) (hnd : ∀ p d, lp ≠ .done p d)
    (h : (stepLP cfg c s l b lp).2.2.1 = .done p (some d)) : ∃ q i, lp = .a3 q i :=
  let ⟨i, e, _⟩ := done_debt_only_from_a3 cfg c s l b lp p d hnd h; ⟨p, i, e⟩

/-- non-vacuity: a thread with a node and a counter far from the wrap satisfies the hypotheses -/
example : ({ node := some 0, gen := 8 } : Locals).node.isSome = true ∧
    ((({ node := some 0, gen := 8 } : Locals).gen + genStep) % (2 ^ 64) ≠ 0) := by decide +kernel

end C08
