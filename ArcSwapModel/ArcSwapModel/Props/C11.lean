import ArcSwapModel.Inv.Check
import ArcSwapModel.Tie.ListNodeGet
import ArcSwapModel.Tie.ListCheckCooldown
import ArcSwapModel.Tie.ListStartCooldown
import ArcSwapModel.Tie.ListReserveWriter
import ArcSwapModel.Tie.ListReservationDrop
import ArcSwapModel.Tie.ListTraverse
import ArcSwapModel.Tie.ListWith
import ArcSwapModel.Tie.ListLocalNodeDrop
import ArcSwapModel.Tie.ListNewHelping
import ArcSwapModel.Tie.ListHelp
import ArcSwapModel.Tie.DebtPayAll
import ArcSwapModel.Tie.Sites
import ArcSwapModel.Inv.Named

/-!
# C11 — thread churn: bookkeeping is reused, never shared
(exclusivity and reuse proved; the unconditional bound is refuted — known finding, see DESIGN §9 D2)

`Reachable` ranges over every execution of `M`: any number of threads starting, using containers and
exiting in any pattern (thread exit sends the node to cooldown; the wrap of the transaction counter
too), writers walking the list at the very moment a node's owner exits or a new owner claims it,
any schedule.
-/

namespace C11
open M Consts

/-- **Never used by two threads at a time**: in every reachable state no node is owned by two
    threads — where "owned" is the right to publish debts and generations in it (the node of the
    thread's `LocalNode`, from the claiming compare-exchange or the allocation until
    `start_cooldown`'s swap). -/
theorem C11_exclusive {st : State} (h : Reachable st) (t t' n : Nat) (hne : t ≠ t')
    (ho : ownsT (st.th t) = some n) : ownsT (st.th t') ≠ some n :=
  (OwnInv.reachable h).excl t t' n hne ho

/-- an owned node exists in the list bookkeeping and is marked `NODE_USED` -/
theorem C11_owned_in_use {st : State} (h : Reachable st) (t n : Nat) (ho : ownsT (st.th t) = some n) :
    n < st.sh.nNodes ∧ (st.sh.nodes n).inUse = nodeUsed :=
  ⟨(OwnInv.reachable h).lt t n ho, (OwnInv.reachable h).used t n ho⟩

/-- **Released bookkeeping is reused** (the step-level facts): a node found `NODE_UNUSED` by the
    claiming compare-exchange is taken and nothing is allocated; a node found in cooldown with no
    writer inside is released for reuse. -/
theorem C11_claim_reuses (s : Shared) (b : Bool) (n : Nat) (h : (s.nodes n).inUse = nodeUnused) :
    (stepNG s b (.claim n)).2.1 = .done n ∧ (stepNG s b (.claim n)).1.nNodes = s.nNodes := by
  simp [stepNG, h]

theorem C11_cooldown_released (s : Shared) (b : Bool) (n : Nat)
    (h : (s.nodes n).inUse = nodeCooldown) (hw : (s.nodes n).writers = 0) :
    (stepNG s b (.cc0 n)).2.1 = .cc1 n ∧ ((stepNG s b (.cc0 n)).1.nodes n).inUse = nodeChecking ∧
    (stepNG s b (.cc1 n)).2.1 = .cc2 n true ∧
    ((s.nodes n).inUse = nodeChecking → ((stepNG s b (.cc2 n true)).1.nodes n).inUse = nodeUnused) := by
  refine ⟨by simp [stepNG, h], by simp [stepNG, h], by simp [stepNG, hw], fun hc => by simp [stepNG, hc]⟩

/-- … and with a writer inside it goes back to the cooldown: the check holds the node in a state of
    its own meanwhile, in which nobody can claim it -/
theorem C11_cooldown_kept_while_writer_inside (s : Shared) (b : Bool) (n : Nat)
    (hw : (s.nodes n).writers ≠ 0) (hc : (s.nodes n).inUse = nodeChecking) :
    (stepNG s b (.cc1 n)).2.1 = .cc2 n false ∧ ((stepNG s b (.cc2 n false)).1.nodes n).inUse = nodeCooldown ∧
    (stepNG s b (.claim n)).2.1 ≠ .done n := by
  refine ⟨by simp [stepNG, hw], by simp [stepNG, hc], ?_⟩
  have : (s.nodes n).inUse ≠ nodeUnused := by rw [hc]; exact Consts.node_checking_distinct.2.1
  simp only [stepNG, this, ↓reduceIte, NG.afterNode]
  split <;> simp

/-- a node is allocated only by a `Node::get` whose walk found no node it could claim: every
    allocation step is preceded, in that call, by the end of the list (`allocLoad` is entered from
    `afterNode` of the last node or from an empty list only) -/
theorem C11_alloc_only_after_walk (s : Shared) (b : Bool) (ng : NG)
    (h : (stepNG s b ng).2.1 = .allocLoad) :
    (ng = .trav ∧ s.head = none) ∨ (∃ n, ng = .claim n ∧ (s.nodes n).inUse ≠ nodeUnused ∧ (s.nodes n).next = none) := by
  cases ng with
  | trav =>
    simp only [stepNG] at h
    cases hh : s.head with
    | none => exact .inl ⟨rfl, rfl⟩
    | some n => rw [hh] at h; cases h
  | claim n =>
    simp only [stepNG] at h
    split at h
    · cases h
    · rename_i hne
      simp only [NG.afterNode] at h
      cases hn : (s.nodes n).next with
      | none => exact .inr ⟨n, rfl, hne, hn⟩
      | some m => rw [hn] at h; cases h
  | _ => simp only [stepNG] at h <;> (repeat' split at h) <;> cases h

/-!
**The bound.**  The statement "the number of nodes is bounded by the peak number of threads alive"
is *false* for some schedules: a writer that walks the list in lockstep just ahead of a newly started
thread holds `active_writers = 1` on each node in cooldown exactly when the newcomer inspects it,
so the newcomer allocates although released nodes exist (`C11_alloc_only_after_walk` says when an
allocation happens; `check_cooldown` refuses a node with a writer inside by design — that is the
ABA protection).  The schedule is replayed on the real crate (`scenarios/d2_lockstep.txt`) and
recorded as the known finding `writer-lockstep-node-get`.  What is enforced on every execution is
the conditional statement: a `Node::get` that never observed a writer inside a node in cooldown
allocates only when every node was in use.
-/

/-! ## The check for the end of a cooldown holds its node (`Inv/Check.lean`; repair of D12) -/

/-- **a node under check is used by nobody else**: in every reachable state, a node that some
    `Node::get` has taken out of cooldown to look at its `active_writers` is in the checking state,
    is held by that one thread, is owned by nobody and can be neither claimed nor sent to cooldown
    — so between the look at the writers and the release it cannot go through another round of
    ownership -/
theorem C11_check_holds_its_node {st : State} (h : Reachable st) (t n : Nat) (hc : (st.th t).op.chk = some n) :
    (st.sh.nodes n).inUse = nodeChecking ∧ (∀ t', t' ≠ t → (st.th t').op.chk ≠ some n) ∧
      (∀ t', ownsT (st.th t') ≠ some n) := by
  have hi := CheckInv.reachable h
  exact ⟨hi.held t n hc, fun t' ht' => hi.excl t t' n (fun e => ht' e.symm) hc,
    (checked_node_is_nobodys hi (OwnInv.reachable h) t n hc).1⟩

/-! ## The list itself (`Inv/ListInv.lean`) -/

/-- **the bookkeeping is a list, in every reachable state**: `LIST_HEAD` and the `next` pointers form
    a chain without repetition over nodes that exist, and no thread's allocated-but-unlinked node
    is on it -/
theorem C11_nodes_form_a_list {st : State} (h : Reachable st) : ∃ L, ListInv st L :=
  ListInv.reachable h

/-- **prepend-only**: along any continuation of any execution the list only grows at the front: a
    node once linked stays linked, behind the same successors, whoever owns it and however often it
    is released and re-claimed -/
theorem C11_list_prepend_only {st : State} {L : List Nat} (h : ListInv st L) (ho : OwnInv st)
    (sched : List (Nat × Bool)) : ∃ pre, ListInv (run st sched) (pre ++ L) :=
  h.run ho sched

/-- one step of any thread leaves the list alone or prepends one node -/
theorem C11_step_prepends_at_most_one {st : State} {L : List Nat} (h : ListInv st L) (ho : OwnInv st) (t : Nat) (b : Bool) :
    ListInv (microStep st t b).1 L ∨ ∃ k, k ∉ L ∧ ListInv (microStep st t b).1 (k :: L) :=
  h.step ho t b

/-- the list is acyclic and no longer than the number of nodes ever named -/
theorem C11_list_acyclic_and_bounded {st : State} {L : List Nat} (h : ListInv st L) :
    L.Nodup ∧ L.length ≤ st.sh.nNodes :=
  ⟨chainFrom_nodup h.1, h.length_le⟩

example : (State.initial {} (fun _ => [])).sh.nNodes = 0 := rfl

/-- **every thread's node is linked**: in every reachable state the node a thread holds is on the
    list — so a writer's walk, which follows the list from its head, comes past it -/
theorem C11_thread_node_on_list {st : State} (h : Reachable st) :
    ∃ L, ListInv st L ∧ ∀ t n, (st.th t).loc.node = some n → n ∈ L :=
  thread_node_on_list h

/-- **a debt slot that names a value belongs to a linked node**: in every reachable state -/
theorem C11_named_slot_on_list {st : State} (h : Reachable st) :
    ∃ L, ListInv st L ∧ ∀ n i, (st.sh.nodes n).fast i ≠ .none → n ∈ L := by
  obtain ⟨L, hL⟩ := NamedLinked.reachable h
  exact ⟨L, hL.linked.list, hL.named⟩

end C11
