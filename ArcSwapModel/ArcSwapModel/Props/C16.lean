import ArcSwapModel.CacheM
import ArcSwapModel.Tie.CacheNew
import ArcSwapModel.Tie.CacheLoad
import ArcSwapModel.Tie.CacheLoadNoRevalidate
import ArcSwapModel.Tie.CacheRevalidate
import ArcSwapModel.Tie.CacheMap
import ArcSwapModel.Tie.CacheMapCacheLoad
import ArcSwapModel.Tie.CacheAccessLoad
import ArcSwapModel.Tie.LibLoadFull
import ArcSwapModel.Tie.RwLoad
import ArcSwapModel.Tie.HybridLoad

/-!
# C16 — Cache returns a current-or-newer value and retains at most one old value

Over `CacheM`: one cache, an atomic cell with address reuse, and an arbitrary environment (stores
of new and of old values — A-B-A —, other owners coming and going: other caches, clones, mapped
caches), any interleaving of environment events with the two halves of `Cache::load`.
-/

namespace C16
open CacheM

/-- indicator of `a = b` -/
def ind (a b : Nat) : Nat := if a = b then 1 else 0

structure Inv (s : State) : Prop where
  /-- exact ownership: the cell, the cache, the environment — nothing else -/
  acct : ∀ i, s.owners i = ind s.cur i + ind s.cached i + s.others i
  /-- live objects have distinct addresses -/
  distinct : ∀ i j, i < s.n → j < s.n → 0 < s.owners i → 0 < s.owners j → s.addr i = s.addr j → i = j
  curLt : s.cur < s.n
  cachedLt : s.cached < s.n
  othersLt : ∀ i, s.n ≤ i → s.others i = 0
  headCur : s.hist.head? = some s.cur
  lastLe : 1 ≤ s.lastIdx ∧ s.lastIdx ≤ s.hist.length
  /-- the cached value was the current one when the history had length `lastIdx` -/
  lastIs : atLen s.hist s.lastIdx = some s.cached
  startLe : s.callStart ≤ s.hist.length
  /-- once the pointers compared equal, the returned value is from within the call -/
  sameFresh : s.pending = some false → s.callStart ≤ s.lastIdx

/-- the owner counts after one reference has moved from `src` to `dst`: what `install` and the
    reloading `finish` do to `owners` -/
def move (ow : Nat → Nat) (src dst : Nat) : Nat → Nat :=
  upd (upd ow dst (ow dst + 1)) src (upd ow dst (ow dst + 1) src - 1)

theorem move_apply (ow : Nat → Nat) (src dst j : Nat) (h : 0 < ow src) :
    move ow src dst j + ind src j = ow j + ind dst j := by
  simp only [move, upd, ind]; (repeat' split) <;> subst_vars <;> omega

theorem move_live (ow : Nat → Nat) (src dst j : Nat) (h : 0 < move ow src dst j) : j = dst ∨ 0 < ow j := by
  simp only [move, upd] at h; (repeat' split at h) <;> subst_vars <;> omega

theorem atLen_cons (h : List Nat) (x k : Nat) (hk : k ≤ h.length) :
    atLen (x :: h) k = atLen h k := by
  unfold atLen
  rw [List.length_cons, show h.length + 1 - k = (h.length - k) + 1 by omega, List.getElem?_cons_succ]

/-- the head of the history is the value at its full length -/
theorem atLen_of_head {h : List Nat} {x : Nat} (hx : h.head? = some x) :
    (1 ≤ h.length ∧ h.length ≤ h.length) ∧ atLen h h.length = some x := by
  cases h with
  | nil => cases hx
  | cons y t => exact ⟨⟨Nat.succ_pos _, Nat.le_refl _⟩, by simpa [atLen] using hx⟩

theorem inv_init (a0 : Nat) : Inv (init a0) := by
  refine ⟨fun i => ?_, fun i j hi hj _ _ _ => ?_, Nat.zero_lt_one, Nat.zero_lt_one, fun _ _ => rfl, rfl,
    ⟨Nat.le_refl _, Nat.le_refl _⟩, rfl, Nat.le_refl _, fun h => nomatch h⟩
  · show (if i = 0 then 2 else 0) = ind 0 i + ind 0 i + 0
    simp only [ind]; split <;> rename_i h <;> simp [h, eq_comm]
  · have : i < 1 := hi; have : j < 1 := hj; omega

theorem cur_live (s : State) (h : Inv s) : 0 < s.owners s.cur := by
  have := h.acct s.cur; simp only [ind, if_pos] at this; omega

theorem cached_live (s : State) (h : Inv s) : 0 < s.owners s.cached := by
  have := h.acct s.cached; simp only [ind, if_pos] at this; omega

theorem owners_beyond (s : State) (h : Inv s) (i : Nat) (hi : s.n ≤ i) : s.owners i = 0 := by
  have := h.acct i; have := h.othersLt i hi; have := h.curLt; have := h.cachedLt
  simp only [ind] at *; (repeat' split at *) <;> omega

/-- equal addresses of two live objects: the cached object *is* the current one -/
theorem Inv.same_address {s : State} (h : Inv s) (ha : s.addr s.cached = s.addr s.cur) : s.cached = s.cur :=
  h.distinct _ _ h.cachedLt h.curLt (cached_live s h) (cur_live s h) ha

/-- owner counts that are live only where the old ones were keep the live addresses distinct -/
theorem Inv.distinct_of_live {s : State} (h : Inv s) {ow : Nat → Nat} (hl : ∀ x, 0 < ow x → 0 < s.owners x)
    (i j : Nat) (hi : i < s.n) (hj : j < s.n) (hoi : 0 < ow i) (hoj : 0 < ow j) (hij : s.addr i = s.addr j) :
    i = j :=
  h.distinct i j hi hj (hl i hoi) (hl j hoj) hij

/-- The cell's reference moves to `i`, whose address no other live object has: so for an object
    that is live, and for a fresh one at a free address. -/
theorem inv_install (s : State) (i : Nat) (h : Inv s) (hi : i < s.n)
    (hfresh : ∀ j, j < s.n → 0 < s.owners j → s.addr j = s.addr i → j = i) : Inv (install s i) := by
  have hl := h.lastLe
  refine ⟨fun j => ?_, fun a b ha hb hoa hob hab => ?_, hi, h.cachedLt, h.othersLt, rfl,
    ⟨hl.1, Nat.le_succ_of_le hl.2⟩, (atLen_cons _ _ _ hl.2).trans h.lastIs, Nat.le_succ_of_le h.startLe,
    h.sameFresh⟩
  · have := move_apply s.owners s.cur i j (cur_live s h); have := h.acct j
    show move s.owners s.cur i j = ind i j + ind s.cached j + s.others j; omega
  · rcases move_live _ _ _ _ hoa with rfl | la <;> rcases move_live _ _ _ _ hob with rfl | lb
    · rfl
    · exact (hfresh b hb lb hab.symm).symm
    · exact hfresh a ha la hab
    · exact h.distinct a b ha hb la lb hab

/-- allocation of a fresh object (not yet owned by anyone) -/
theorem inv_alloc (s : State) (a : Nat) (h : Inv s) :
    Inv { s with n := s.n + 1, addr := upd s.addr s.n a, owners := upd s.owners s.n 0 } := by
  have hn := owners_beyond s h s.n (Nat.le_refl _)
  have hown : upd s.owners s.n 0 = s.owners := funext fun i => by
    by_cases hi : i = s.n
    · rw [hi, upd_same, hn]
    · rw [upd_other _ _ _ _ hi]
  refine ⟨?_, fun i j hi hj hoi hoj hij => ?_, Nat.lt_succ_of_lt h.curLt, Nat.lt_succ_of_lt h.cachedLt,
    fun i hi => h.othersLt i (Nat.le_of_succ_le hi), h.headCur, h.lastLe, h.lastIs, h.startLe, h.sameFresh⟩
  · show ∀ i, upd s.owners s.n 0 i = _
    rw [hown]; exact h.acct
  · have hoi' : 0 < upd s.owners s.n 0 i := hoi
    have hoj' : 0 < upd s.owners s.n 0 j := hoj
    have hij' : upd s.addr s.n a i = upd s.addr s.n a j := hij
    rw [hown] at hoi' hoj'
    have hi' : i ≠ s.n := fun e => by rw [e, hn] at hoi'; omega
    have hj' : j ≠ s.n := fun e => by rw [e, hn] at hoj'; omega
    rw [upd_other _ _ _ _ hi', upd_other _ _ _ _ hj'] at hij'
    have : i < s.n + 1 := hi
    have : j < s.n + 1 := hj
    exact h.distinct i j (by omega) (by omega) hoi' hoj' hij'

/-- the environment changes its holding of a live object `i` (and `owners i` with it) -/
theorem inv_env (s : State) (i v w : Nat) (h : Inv s) (hi : i < s.n)
    (hacct : v = ind s.cur i + ind s.cached i + w) (hlive : 0 < v → 0 < s.owners i) :
    Inv { s with owners := upd s.owners i v, others := upd s.others i w } := by
  refine ⟨fun j => ?_, h.distinct_of_live fun x (hx : 0 < upd s.owners i v x) => ?_, h.curLt, h.cachedLt,
    fun j hj => ?_, h.headCur, h.lastLe, h.lastIs, h.startLe, h.sameFresh⟩
  · show upd s.owners i v j = ind s.cur j + ind s.cached j + upd s.others i w j
    by_cases hj : j = i
    · rw [hj, upd_same, upd_same, hacct]
    · rw [upd_other _ _ _ _ hj, upd_other _ _ _ _ hj]; exact h.acct j
  · by_cases hx1 : x = i
    · rw [hx1, upd_same] at hx; exact hx1 ▸ hlive hx
    · rwa [upd_other _ _ _ _ hx1] at hx
  · have : s.n ≤ j := hj
    show upd s.others i w j = 0
    rw [upd_other _ _ _ _ (by omega)]; exact h.othersLt j hj

/-- the invariant is preserved by every step -/
theorem inv_step {s s' : State} {e : Ev} {r : Option Nat} (h : Inv s) (st : Step s e s' r) : Inv s' := by
  cases st with
  | storeNew a hfree =>
    -- allocate (nobody owns it yet), then install: no live object has the new one's address
    refine inv_install _ s.n (inv_alloc s a h) (Nat.lt_succ_self _) fun j hj hoj hja => ?_
    have hoj' : 0 < upd s.owners s.n 0 j := hoj
    have hja' : upd s.addr s.n a j = upd s.addr s.n a s.n := hja
    have : j < s.n + 1 := hj
    by_cases hjn : j = s.n
    · exact hjn
    · rw [upd_other _ _ _ _ hjn] at hoj' hja'; rw [upd_same] at hja'
      exact absurd hja' (hfree j (by omega) hoj')
  | storeOld i hi ho =>
    have hlive : 0 < s.owners i := by have := h.acct i; omega
    exact inv_install s i h hi fun j hj hoj hji => h.distinct j i hj hi hoj hlive hji
  | envInc i hi ho => exact inv_env s i _ _ h hi (by have := h.acct i; omega) fun _ => ho
  | envDec i hi ho => exact inv_env s i _ _ h hi (by have := h.acct i; omega) (by omega)
  | peekSame hp haddr =>
    have hh := atLen_of_head h.headCur
    exact ⟨h.acct, h.distinct, h.curLt, h.cachedLt, h.othersLt, h.headCur, hh.1, h.same_address haddr ▸ hh.2,
      Nat.le_refl _, fun _ => Nat.le_refl _⟩
  | peekDiff hp haddr =>
    exact ⟨h.acct, h.distinct, h.curLt, h.cachedLt, h.othersLt, h.headCur, h.lastLe, h.lastIs, Nat.le_refl _,
      fun hh => nomatch hh⟩
  | finishSame hp =>
    exact ⟨h.acct, h.distinct, h.curLt, h.cachedLt, h.othersLt, h.headCur, h.lastLe, h.lastIs, h.startLe,
      fun hh => nomatch hh⟩
  | finishReload hp =>
    -- the cache's reference moves from the cached object to the current one
    have hh := atLen_of_head h.headCur
    refine ⟨fun j => ?_, h.distinct_of_live fun x hx => ?_, h.curLt, h.curLt, h.othersLt, h.headCur, hh.1, hh.2,
      h.startLe, fun hh => nomatch hh⟩
    · have := move_apply s.owners s.cached s.cur j (cached_live s h); have := h.acct j
      show move s.owners s.cached s.cur j = ind s.cur j + ind s.cur j + s.others j; omega
    · exact (move_live _ _ _ _ hx).elim (· ▸ cur_live s h) id

theorem inv_reachable {a0 : Nat} {s : State} (h : Reachable a0 s) : Inv s := by
  induction h with
  | init => exact inv_init a0
  | step _ st ih => exact inv_step ih st

/-! ## The property -/

theorem atLen_mem (h : List Nat) (k x : Nat) (hx : atLen h k = some x) : x ∈ h := by
  unfold atLen at hx; exact List.mem_of_getElem? hx

/-- **Never a value that was not stored; current-or-newer than the previous one; fresh.**
    The value a `Cache::load` returns was the cell's content at the instant the history had length
    `lastIdx'` — an instant inside this call (`callStart ≤ lastIdx'`: every store that completed
    before the call is at or before it), and not before the instant of the value returned by the
    previous load (`lastIdx ≤ lastIdx'`). -/
theorem C16_load {a0 : Nat} {s s' : State} {r : Nat} (hr : Reachable a0 s)
    (st : Step s .finish s' (some r)) :
    r ∈ s'.hist ∧ atLen s'.hist s'.lastIdx = some r ∧ s.lastIdx ≤ s'.lastIdx ∧ s.callStart ≤ s'.lastIdx := by
  have h := inv_reachable hr
  have h' := inv_step h st
  cases st with
  | finishSame hp =>
    exact ⟨atLen_mem _ _ _ h.lastIs, h.lastIs, Nat.le_refl _, h.sameFresh hp⟩
  | finishReload hp =>
    have := h'.lastIs
    exact ⟨atLen_mem _ _ _ this, this, h.lastLe.2, h.startLe⟩

/-- the instant of the last returned value never moves backwards, whatever happens -/
theorem C16_monotone {a0 : Nat} {s s' : State} {e : Ev} {r : Option Nat} (hr : Reachable a0 s)
    (st : Step s e s' r) : s.lastIdx ≤ s'.lastIdx := by
  have h := inv_reachable hr
  cases st <;> first
    | exact Nat.le_refl _
    | exact h.lastLe.2

/-- **Exactly one reference**, to the value it last returned; the previous one is released in the
    load that observes the change (the accounting holds in *every* reachable state, in particular
    right after `finish`). -/
theorem C16_one_ref {a0 : Nat} {s : State} (hr : Reachable a0 s) (i : Nat) :
    s.owners i = ind s.cur i + ind s.cached i + s.others i :=
  (inv_reachable hr).acct i

/-- A-B-A and address reuse: when the peeked address equals the cached one, the cached object is
    the very object the cell holds (not another object at a recycled address). -/
theorem C16_same_address_same_object {a0 : Nat} {s : State} (hr : Reachable a0 s)
    (h : s.addr s.cached = s.addr s.cur) : s.cached = s.cur :=
  (inv_reachable hr).same_address h

/-- `MapCache::load` is `(self.projection)(self.inner.load())`: the projection of exactly that value -/
def mapCacheLoad {α β : Type} (proj : α → β) (inner : α) : β := proj inner
theorem C16_mapped {α β : Type} (proj : α → β) (v : α) : mapCacheLoad proj v = proj v := rfl

/-- non-vacuity: a history with a store is reachable -/
example : ∃ s, Reachable 7 s ∧ s.hist.length = 2 :=
  ⟨_, Reachable.step Reachable.init (Step.storeNew _ 9 fun _ _ _ => (by decide : 7 ≠ 9)), rfl⟩

end C16
