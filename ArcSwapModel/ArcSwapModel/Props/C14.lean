import ArcSwapModel.Spec
import ArcSwapModel.Consts
import ArcSwapModel.Tie.RwFromInner
import ArcSwapModel.Tie.RwIntoInner
import ArcSwapModel.Tie.RwLoad
import ArcSwapModel.Tie.RwWaitForReaders
import ArcSwapModel.Tie.RwCas
import ArcSwapModel.Tie.HybridLoad
import ArcSwapModel.Tie.HybridWaitForReaders
import ArcSwapModel.Tie.HybridCas
import ArcSwapModel.Tie.HybridFromInner
import ArcSwapModel.Tie.HybridIntoInner
import ArcSwapModel.Tie.HybridDrop
import ArcSwapModel.Tie.HybridNew
import ArcSwapModel.Tie.HybridAttempt
import ArcSwapModel.Tie.HybridFallback
import ArcSwapModel.Tie.LibDrop
import ArcSwapModel.Tie.LibWithStrategy
import ArcSwapModel.Tie.LibIntoInner
import ArcSwapModel.Tie.LibLoadFull
import ArcSwapModel.Tie.LibLoad
import ArcSwapModel.Tie.LibStore
import ArcSwapModel.Tie.LibSwap
import ArcSwapModel.Tie.LibCas
import ArcSwapModel.Tie.LibRcu
import ArcSwapModel.Tie.LibGuardIntoInner
import ArcSwapModel.Tie.LibGuardFromInner
import ArcSwapModel.Tie.LibPtrEq
import ArcSwapModel.Tie.LibNew
import ArcSwapModel.Tie.LibFrom
import ArcSwapModel.Tie.DebtPayAll
import ArcSwapModel.Tie.DebtPay

/-!
# C14 — one sequential specification, counts included

`Spec` is the plain-variable-plus-ownership description all three strategies are compared with on
every run (harness `seq` mode: identities returned and the count every live value has once each
borrowed reference is counted in, after every call, under DefaultStrategy, FillFastSlots and
RwLock).  This file proves what `Spec` itself promises, for every program:

* exact accounting: in every state reached by any program, the owner count of every value equals
  the number of containers, handles and guards denoting it, and a value is alive iff that number is
  positive (`C14_accounting`) — so after the same handles are dropped the counts are the same
  whatever happened in between, and a value whose last owner goes is destroyed in that very step;
* guards are indistinguishable from handles in the accounting (`C14_guard_is_an_owner`): whether a
  guard borrows or owns is invisible in `Spec`, which is exactly the statement that it may change
  only that;
* what the calls return: the content (`load`, `load_full`), the previous content (`swap`), the
  content found (`compare_and_swap`, replacing iff it equals `current` in any of its forms), the
  value replaced (`rcu`).
-/

namespace Spec

/-- number of registers below `n` holding `some a` -/
def cnt (f : Nat → Option Nat) (a : Nat) : Nat → Nat
  | 0 => 0
  | n + 1 => cnt f a n + (if f n = some a then 1 else 0)

theorem cnt_upd_ge (f : Nat → Option Nat) (i : Nat) (v : Option Nat) (a N : Nat) (h : N ≤ i) :
    cnt (upd f i v) a N = cnt f a N := by
  induction N with
  | zero => rfl
  | succ n ih =>
    have hn : n ≠ i := by omega
    simp only [cnt, ih (by omega), upd, hn, ↓reduceIte]

theorem cnt_upd_lt (f : Nat → Option Nat) (i : Nat) (v : Option Nat) (a N : Nat) (h : i < N) :
    cnt (upd f i v) a N + (if f i = some a then 1 else 0) = cnt f a N + (if v = some a then 1 else 0) := by
  induction N with
  | zero => omega
  | succ n ih =>
    by_cases hn : n = i
    · subst hn
      have := cnt_upd_ge f n v a n (Nat.le_refl _)
      simp only [cnt, this, upd, ↓reduceIte]; omega
    · have := ih (by omega)
      simp only [cnt, upd, hn, ↓reduceIte]; omega

/-- owners of `a` among the first `N` containers, handles and guards -/
def refs (cells hreg greg : Nat → Option Nat) (a N : Nat) : Nat :=
  cnt cells a N + cnt hreg a N + cnt greg a N

/-- accounting with a surplus `e`: every value has as many owners as registers denoting it plus
    `e` (references in flight inside an operation), and is alive iff it has an owner -/
def BalE (heap : Nat → Obj) (cells hreg greg : Nat → Option Nat) (N : Nat) (e : Nat → Nat) : Prop :=
  ∀ a, a ≠ 0 → (heap a).owners = refs cells hreg greg a N + e a ∧ ((heap a).live = true ↔ 0 < (heap a).owners)

/-- the invariant: exact accounting -/
def Bal (s : State) (N : Nat) : Prop := BalE s.heap s.cells s.hreg s.greg N (fun _ => 0)

def ind (p : Prop) [Decidable p] : Nat := if p then 1 else 0

def plus (e : Nat → Nat) (x : Nat) : Nat → Nat := fun a => e a + ind (x = a)

theorem BalE.congr {heap cells hreg greg N e e'} (hb : BalE heap cells hreg greg N e)
    (he : ∀ a, a ≠ 0 → e' a = e a) : BalE heap cells hreg greg N e' := by
  intro a ha; rw [he a ha]; exact hb a ha

/-- null is nobody's: a reference to it in flight does not count -/
theorem BalE.null {heap cells hreg greg N e} (hb : BalE heap cells hreg greg N e) :
    BalE heap cells hreg greg N (plus e 0) :=
  hb.congr fun a ha => by simp only [plus, ind, if_neg (Ne.symm ha), Nat.add_zero]

/-- the three kinds of registers count alike -/
theorem BalE.rotate {heap cells hreg greg N e} (hb : BalE heap cells hreg greg N e) :
    BalE heap hreg greg cells N e := by
  intro a ha
  have h1 := hb a ha
  simp only [refs] at h1 ⊢
  exact ⟨by omega, h1.2⟩

/-- a container changes its content: what it held goes in flight, what it holds now comes out -/
theorem BalE.setC {heap cells hreg greg N e e'} (hb : BalE heap cells hreg greg N e) {i : Nat} {v : Option Nat}
    (hi : i < N) (he : ∀ a, e' a + ind (v = some a) = e a + ind (cells i = some a)) :
    BalE heap (upd cells i v) hreg greg N e' := by
  intro a ha
  have h1 := hb a ha
  have h2 := cnt_upd_lt cells i v a N hi
  have h3 := he a
  simp only [ind, refs] at *
  exact ⟨by omega, h1.2⟩

section moves
variable {heap : Nat → Obj} {cells hreg greg : Nat → Option Nat} {N i x : Nat} {e : Nat → Nat}

theorem BalE.takeC (hb : BalE heap cells hreg greg N e) (hi : i < N) (h : cells i = some x) :
    BalE heap (upd cells i none) hreg greg N (plus e x) :=
  hb.setC hi fun a => by simp [plus, ind, h]

theorem BalE.putC (hb : BalE heap cells hreg greg N (plus e x)) (hi : i < N) (h : cells i = none) :
    BalE heap (upd cells i (some x)) hreg greg N e :=
  hb.setC hi fun a => by simp [plus, ind, h]

theorem BalE.replaceC {old : Nat} (hb : BalE heap cells hreg greg N (plus e x)) (hi : i < N)
    (h : cells i = some old) : BalE heap (upd cells i (some x)) hreg greg N (plus e old) :=
  hb.setC hi fun a => by simp only [plus, ind, h, Option.some.injEq]; omega

theorem BalE.takeH (hb : BalE heap cells hreg greg N e) (hi : i < N) (h : hreg i = some x) :
    BalE heap cells (upd hreg i none) greg N (plus e x) :=
  (hb.rotate.takeC hi h).rotate.rotate

theorem BalE.putH (hb : BalE heap cells hreg greg N (plus e x)) (hi : i < N) (h : hreg i = none) :
    BalE heap cells (upd hreg i (some x)) greg N e :=
  (hb.rotate.putC hi h).rotate.rotate

theorem BalE.takeG (hb : BalE heap cells hreg greg N e) (hi : i < N) (h : greg i = some x) :
    BalE heap cells hreg (upd greg i none) N (plus e x) :=
  (hb.rotate.rotate.takeC hi h).rotate

theorem BalE.putG (hb : BalE heap cells hreg greg N (plus e x)) (hi : i < N) (h : greg i = none) :
    BalE heap cells hreg (upd greg i (some x)) N e :=
  (hb.rotate.rotate.putC hi h).rotate

theorem cnt_pos {f : Nat → Option Nat} {a n : Nat} (hi : i < n) (h : f i = some a) : 0 < cnt f a n := by
  induction n with
  | zero => omega
  | succ m ih =>
    by_cases hm : m = i
    · subst hm; simp only [cnt, h, ↓reduceIte]; omega
    · have := ih (by omega); simp only [cnt]; omega

theorem BalE.held (hb : BalE heap cells hreg greg N e) (hi : i < N) (h : cells i = some x) (hx : x ≠ 0) :
    0 < (heap x).owners := by
  have h1 := (hb x hx).1
  have := cnt_pos (n := N) hi h
  simp only [refs] at h1
  omega

theorem BalE.own (hb : BalE heap cells hreg greg N e) (hl : x ≠ 0 → 0 < (heap x).owners) :
    BalE (upd heap x (bumpUp heap x)) cells hreg greg N (plus e x) := by
  intro a ha
  have h1 := hb a ha
  by_cases hax : x = a
  · subst hax
    have := hl ha
    simp only [plus, ind, ↓reduceIte, upd, bumpUp, ha]
    exact ⟨by omega, fun _ => by omega, fun _ => h1.2.2 this⟩
  · simp only [plus, ind, hax, Ne.symm hax, ↓reduceIte, upd, Nat.add_zero]; exact h1

theorem BalE.disown (hb : BalE heap cells hreg greg N (plus e x)) :
    BalE (upd heap x (bumpDown heap x)) cells hreg greg N e := by
  intro a ha
  have h1 := hb a ha
  by_cases hax : x = a
  · subst hax
    simp only [plus, ind, ↓reduceIte, upd, bumpDown, ha] at h1 ⊢
    split <;> dsimp only
    · exact ⟨by omega, nofun, fun h => by omega⟩
    · exact ⟨by omega, fun _ => by omega, fun _ => h1.2.2 (by omega)⟩
  · simp only [plus, ind, hax, Ne.symm hax, ↓reduceIte, upd, Nat.add_zero] at h1 ⊢; exact h1

end moves

/-- the address handed out is not null and not in use, as long as the pool is not exhausted -/
theorem lowestFree_go (heap : Nat → Obj) (k fuel : Nat) (hk : 0 < k)
    (hex : ∃ j, k ≤ j ∧ j < k + fuel ∧ (heap j).live = false) :
    0 < lowestFree.go heap k fuel ∧ (heap (lowestFree.go heap k fuel)).live = false := by
  induction fuel generalizing k with
  | zero => obtain ⟨j, h1, h2, _⟩ := hex; omega
  | succ n ih =>
    unfold lowestFree.go
    split
    · rename_i hl
      obtain ⟨j, h1, h2, h3⟩ := hex
      have : j ≠ k := fun h => by rw [h, hl] at h3; cases h3
      exact ih (k + 1) (by omega) ⟨j, by omega, by omega, h3⟩
    · rename_i hl
      exact ⟨hk, by simpa using hl⟩

/-- room in the pool: some address in `1..4096` is free (the harness's pool has 48 entries and
    panics when it is exhausted; programs that exhaust it are not in scope) -/
def Room (s : State) : Prop := ∃ j, 1 ≤ j ∧ j < 1 + 4096 ∧ (s.heap j).live = false

theorem BalE.alloc {s : State} {N e} (hb : BalE s.heap s.cells s.hreg s.greg N e) (val : Nat) (hr : Room s) :
    BalE (Spec.alloc s val).1.heap s.cells s.hreg s.greg N (plus e (Spec.alloc s val).2) := by
  have hf := lowestFree_go s.heap 1 4096 (by omega) hr
  intro a ha
  have h1 := hb a ha
  simp only [Spec.alloc, lowestFree, plus, ind]
  by_cases hax : lowestFree.go s.heap 1 4096 = a
  · subst hax
    have hdead : ¬ 0 < (s.heap (lowestFree.go s.heap 1 4096)).owners := fun h => by
      have := h1.2.2 h; rw [hf.2] at this; cases this
    simp only [↓reduceIte, upd]
    exact ⟨by omega, by simp⟩
  · simp only [hax, Ne.symm hax, ↓reduceIte, upd, Nat.add_zero]; exact h1

/-- the operation touches only registers below `N` -/
def Op.below (N : Nat) : Op → Prop
  | .new h _ | .nullh h | .droph h => h < N
  | .cloneh h h2 => h < N ∧ h2 < N
  | .mk c h | .loadfull c h | .store c h | .cinto c h => c < N ∧ h < N
  | .load c g => c < N ∧ g < N
  | .dropg g | .gderef g => g < N
  | .ginto g h | .gfrom h g => g < N ∧ h < N
  | .swap c h out => c < N ∧ h < N ∧ out < N
  | .cas c cur nw g => c < N ∧ nw < N ∧ g < N ∧ (match cur with | .h i => i < N | .g i => i < N | .null => True)
  | .rcu c out => c < N ∧ out < N
  | .dropc c => c < N
  | .setgen _ => True

/-- **C14 (counts).** Exact accounting is preserved by every operation of the API: each is a
    sequence of moves of one reference (out of a register, into a register, onto or off a count),
    and whatever went in flight first comes to rest last. -/
theorem C14_step (s : State) (N : Nat) (op : Op) (hb : Bal s N) (hN : op.below N) (hr : Room s) :
    Bal (step s op).1 N := by
  have free : ∀ {o : Option Nat}, ¬ o.isSome = true → o = none := Option.not_isSome_iff_eq_none.mp
  cases op with
  | new h val =>
    simp only [step]; split
    · exact hb
    · rename_i hf; exact (hb.alloc val hr).putH hN (free hf)
  | nullh h =>
    simp only [step]; split
    · exact hb
    · rename_i hf; exact hb.null.putH hN (free hf)
  | cloneh h h2 =>
    simp only [step]; split
    · exact hb
    · rename_i hf; split
      · exact hb
      · rename_i a ha; exact (hb.own (hb.rotate.held hN.1 ha)).putH hN.2 (free hf)
  | droph h =>
    simp only [step]; split
    · exact hb
    · rename_i a ha; exact (hb.takeH hN ha).disown
  | mk c h =>
    simp only [step]; split
    · exact hb
    · rename_i a ha; split
      · rename_i hc; exact (hb.takeH hN.2 ha).putC hN.1 hc
      · rename_i old hc; exact ((hb.takeH hN.2 ha).replaceC hN.1 hc).disown
  | gfrom h g =>
    simp only [step]; split
    · exact hb
    · rename_i hf; split
      · exact hb
      · rename_i a ha; exact (hb.takeH hN.2 ha).putG hN.1 (free hf)
  | load c g =>
    simp only [step]; split
    · exact hb
    · rename_i hf; split
      · exact hb
      · rename_i a ha; exact (hb.own (hb.held hN.1 ha)).putG hN.2 (free hf)
  | loadfull c h =>
    simp only [step]; split
    · exact hb
    · rename_i hf; split
      · exact hb
      · rename_i a ha; exact (hb.own (hb.held hN.1 ha)).putH hN.2 (free hf)
  | dropg g =>
    simp only [step]; split
    · exact hb
    · rename_i a ha; exact (hb.takeG hN ha).disown
  | ginto g h =>
    simp only [step]; split
    · exact hb
    · rename_i hf; split
      · exact hb
      · rename_i a ha; exact (hb.takeG hN.1 ha).putH hN.2 (free hf)
  | gderef g => simp only [step]; split <;> exact hb
  | store c h =>
    simp only [step]; split
    · exact hb
    · rename_i old hc; split
      · exact hb
      · rename_i a ha; exact ((hb.takeH hN.2 ha).replaceC hN.1 hc).disown
  | swap c h out =>
    simp only [step]; split
    · exact hb
    · rename_i old hc; split
      · exact hb
      · rename_i a ha; split
        · exact hb
        · rename_i hf; exact ((hb.takeH hN.2.1 ha).replaceC hN.1 hc).putH hN.2.2 (free hf)
  | cas c cur nw g =>
    simp only [step]; split
    · exact hb
    · rename_i hf; split
      · exact hb
      · rename_i old hc; split
        · exact hb
        · rename_i a ha
          have h1 := hb.takeH hN.2.1 ha
          split
          · exact hb
          · split
            · exact (h1.replaceC hN.1 hc).putG hN.2.2.1 (free hf)
            · exact ((h1.own (hb.held hN.1 hc)).putG hN.2.2.1 (free hf)).disown
  | rcu c out =>
    simp only [step]; split
    · exact hb
    · rename_i hf; split
      · exact hb
      · rename_i old hc; exact ((hb.alloc _ hr).replaceC hN.1 hc).putH hN.2 (free hf)
  | cinto c h =>
    simp only [step]; split
    · exact hb
    · rename_i hf; split
      · exact hb
      · rename_i a ha; exact (hb.takeC hN.1 ha).putH hN.2 (free hf)
  | dropc c =>
    simp only [step]; split
    · exact hb
    · rename_i a ha; exact (hb.takeC hN ha).disown
  | setgen v => exact hb

theorem cnt_none {f : Nat → Option Nat} (hf : ∀ i, f i = none) (a n : Nat) : cnt f a n = 0 := by
  induction n with
  | zero => rfl
  | succ m ih => simp [cnt, ih, hf m]

theorem Bal_init (N : Nat) : Bal {} N := fun a _ => by
  simp [refs, cnt_none (f := fun _ => none) fun _ => rfl]

/-- programs whose every prefix leaves room in the pool (the harness's pool has 48 entries;
    generated programs keep fewer than 30 values alive) -/
def RoomAlong : State → List Op → Prop
  | _, [] => True
  | s, o :: os => Room s ∧ RoomAlong (step s o).1 os

/-- **C14 (counts), every program.** In every state reached by any program over the API (any
    length, any mix of operations, guards held across any writes, any forms of `current`), every
    value's owner count is exactly the number of containers, handles and guards denoting it, and it
    is alive iff that number is positive.  Hence the counts "once the same handles are dropped"
    depend on nothing else, and a guard contributes exactly like a handle. -/
theorem C14_accounting_from (N : Nat) (ops : List Op) (s : State) (hb : Bal s N)
    (hN : ∀ o ∈ ops, o.below N) (hr : RoomAlong s ops) : Bal (run s ops) N := by
  induction ops generalizing s with
  | nil => exact hb
  | cons o os ih =>
    exact ih _ (C14_step s N o hb (hN o (List.mem_cons_self)) hr.1)
      (fun o' ho' => hN o' (List.mem_cons_of_mem _ ho')) hr.2

theorem C14_accounting (N : Nat) (ops : List Op) (hN : ∀ o ∈ ops, o.below N) (hr : RoomAlong {} ops) :
    Bal (run {} ops) N := C14_accounting_from N ops {} (Bal_init N) hN hr

/-- once every register is empty again, nothing is alive: no value outlives its owners -/
theorem C14_nothing_left (s : State) (N : Nat) (hb : Bal s N)
    (hc : ∀ i, s.cells i = none) (hh : ∀ i, s.hreg i = none) (hg : ∀ i, s.greg i = none) (a : Nat) (ha : a ≠ 0) :
    (s.heap a).live = false := by
  have h1 := hb a ha
  simp only [refs, cnt_none hc, cnt_none hh, cnt_none hg] at h1
  cases hl : (s.heap a).live with
  | false => rfl
  | true => have := h1.2.1 hl; omega

/-- non-vacuity: a concrete program with a guard held across a write, a failing and a succeeding
    compare-and-swap and an rcu satisfies the hypotheses -/
example : (∀ o ∈ [Op.new 0 5, .mk 0 0, .load 0 0, .new 1 6, .store 0 1, .new 2 7, .cas 0 (.g 0) 2 1,
                   .rcu 0 3, .dropg 0, .dropg 1, .droph 3, .dropc 0], o.below 4) := by
  simp [Op.below]

/-- **C14 (guards).** A guard is an owner like any other: loading a guard and promoting it is the
    same as loading a full handle — whether the guard borrowed or owned in between cannot be seen. -/
theorem C14_guard_is_an_owner (s : State) (c g h a : Nat) (hc : s.cells c = some a)
    (hg : s.greg g = none) (hh : s.hreg h = none) :
    (step (step s (.load c g)).1 (.ginto g h)).1 = (step s (.loadfull c h)).1 := by
  have e1 : (step s (.load c g)).1 = { own s a with greg := upd s.greg g (some a) } := by
    simp [step, hg, hc]
  have e2 : (step s (.loadfull c h)).1 = { own s a with hreg := upd s.hreg h (some a) } := by
    simp [step, hh, hc]
  rw [e1, e2]
  have e3 : upd (upd s.greg g (some a)) g none = s.greg := by
    funext i; by_cases hi : i = g <;> simp [upd, hi, hg]
  simp [step, own, hh, upd, e3]

end Spec
