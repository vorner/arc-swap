import ArcSwapModel.Props.C03
import ArcSwapModel.Props.C08
import ArcSwapModel.Props.C10
import ArcSwapModel.Props.C12
import ArcSwapModel.Tie.LibDrop
import ArcSwapModel.Tie.LibIntoInner
import ArcSwapModel.Tie.LibSwap
import ArcSwapModel.Tie.LibStore
import ArcSwapModel.Tie.HybridCas
import ArcSwapModel.Inv.Surplus
import ArcSwapModel.Inv.Touch4
import ArcSwapModel.Inv.HazH4
import ArcSwapModel.Inv.FaultFree
import ArcSwapModel.Inv.EnvEx

/-!
# C01 — no use-after-free (partial: along the executions of the ledger, in which no hand-over of a
replacement succeeds)

The full statement is `Reachable st → st.sh.fault ≠ some (.uaf _ _)` together with "every handle
denotes a live object of the identity it was created for".  It follows from a global invariant with
an exact accounting clause and a hazard clause (DESIGN §3.1).  The accounting clause is proved
(`Inv/Alive.lean`, from the ledger of C02 and the slot-holder invariants, by counting the holders):
`C01_count_covers_containers_and_handles` — in the end state of every execution that keeps the
program discipline, has no successful hand-over and raises no fault, the strong count of every value
is at least the number of containers holding it plus the number of handles denoting it; so the
container's own stored copy, the result of a full load and a previous value returned by a writer are
alive (`C01_stored_value_alive`, `C01_handle_value_alive`).  The hazard clause (a *borrowed* guard's
value is alive: the slot is seen by every writer that replaces the value) is proved as a global
invariant for the fast slots (`Inv/Haz0 … Haz7`, `C01_confirmed_slot_protects_its_value`,
`C01_borrowed_guard_alive_partial`): a fast slot that names a value, once its owner has confirmed
it, has the value still in a container or ahead of it the walk of a thread that took the value out
— along every execution in which containers are created on fresh cells; they may be consumed and
dropped at any time (`Inv/Busy*`, `HazD1 … HazD4`: a container being destroyed is worked on by its
destroyer alone — the harness's `busy` discipline, in Rust the by-value receiver).  The debt in the
*helping* slot (the fallback path) has its own invariant (`Inv/ActAddr`, `HazH1 … HazH4`): inside
the reader's window the candidate is still in its container or the writer that took it out cannot
get past the help on the reader's node without handing a replacement over; after the window the
slot is ahead of that writer's walk — so the fallback's increment touches a live object
(`C01_fallback_candidate_alive_partial`) and with it *every* count operation does
(`C01_every_count_touched_only_while_alive_partial`); these hold along executions in which no
hand-over succeeds (the ledger's assumption `NoEnv`), which is also where a wrap of the generation
counter cannot matter.  The per-step facts the invariants compose — each for every shared state,
i.e. for every behaviour of the other threads:

1. **publish, then confirm**: a load returns a borrowed guard (one with a debt) only from the
   confirming read, at a step at which the cell holds exactly the pointer that the reader had
   published in its slot before (`borrow_only_after_confirm`); in every other case it either returns
   the debt and goes to the fallback, or — having found it already paid — gives the reference back
   first (D5 repair);
2. **the writer's walk is complete**: for each node of the list it compare-exchanges every fast
   slot, in order, and then the helping slot (`walk_covers_every_slot`), after having looked at the
   helping control word (`walk_helps_first`);
3. **pay before release**: `swap`, `store`, `compare_and_swap`, `into_inner` and `Drop` hand back or
   release the replaced value only after the walk is over (`release_only_after_walk`);
4. **a debt slot is never overwritten** except by a pay-off of exactly its pointer (C10's lemmas),
   and node ownership is exclusive (C11) — so a published debt stays visible to every later walk;
5. the reader on the fallback path increments the candidate's count only after its confirming swap
   returned its own generation (`fallback_inc_only_after_confirm`), and takes a writer's replacement
   only from the envelope named by the control word.

The weak-memory side of 1 and 5 (the two store-buffering shapes need all four accesses `SeqCst`) is
pinned by the ordering obligations in the tie modules; the D7 defect (the fallback's candidate read
was `Acquire`) was found there by Miri and repaired.
-/

namespace C01
open M Consts

/-- 1. a borrowed guard comes only from the confirming read having returned the published pointer -/
theorem borrow_only_after_confirm (cfg : Cfg) (c : Nat) (s : Shared) (l : Locals) (b : Bool) (lp : LP)
    (p : Nat) (d : Nat × Nat) (hnd : ∀ p d, lp ≠ .done p d)
    (h : (stepLP cfg c s l b lp).2.2.1 = .done p (some d)) :
    ∃ idx, lp = .a3 p idx ∧ s.cells c = some p ∧ d = (l.node.getD 0, idx) :=
  C08.done_debt_only_from_a3 cfg c s l b lp p d hnd h

/-- … and before `a3` the reader has swapped that pointer into that slot (`pswap` is the only way
    into `a3`) -/
theorem confirm_follows_publish (cfg : Cfg) (c : Nat) (s : Shared) (l : Locals) (b : Bool) (lp : LP)
    (p idx : Nat) (h : (stepLP cfg c s l b lp).2.2.1 = .a3 p idx) (hne : lp ≠ .a3 p idx) :
    lp = .pswap p idx ∧ ((stepLP cfg c s l b lp).1.nodes (l.node.getD 0)).fast idx = .ptr p := by
  have hs := C08.stepLP_succ cfg c s l b lp
  rw [h] at hs
  cases lp with
  | pswap p' idx' =>
    cases h
    exact ⟨rfl, by simp only [stepLP, ite_setFault_nodes, setNode_nodes_same, upd_same]⟩
  | _ => simp [C08.succ] at hs

/-- 2. the walk compare-exchanges every fast slot of a node in order, then its helping slot, then
    leaves the node: the positions visited from `slot n 0` are `0, 1, …, slotCnt` -/
theorem walk_covers_every_slot (n j : Nat) :
    PP.nextSlot n j = (if j < slotCnt then PP.slot n (j + 1) else PP.rel n) := rfl

theorem walk_pays_matching_slot (cfg : Cfg) (p c : Nat) (s : Shared) (l : Locals) (b : Bool) (n j : Nat)
    (hj : j < slotCnt) (hm : (s.nodes n).fast j = .ptr p) :
    ((stepPP cfg p c s l b (.slot n j)).1.nodes n).fast j = .none := by
  simp [stepPP, hj, hm, Shared.setNode, upd]

theorem walk_pays_helping_slot (cfg : Cfg) (p c : Nat) (s : Shared) (l : Locals) (b : Bool) (n j : Nat)
    (hj : ¬ j < slotCnt) (hm : (s.nodes n).hslot = .ptr p) :
    ((stepPP cfg p c s l b (.slot n j)).1.nodes n).hslot = .none := by
  simp [stepPP, hj, hm, Shared.setNode, upd]

/-- the walk looks at a node's helping control word before its slots (reserve; help; slots) -/
theorem walk_helps_first (cfg : Cfg) (p c : Nat) (s : Shared) (l : Locals) (b : Bool) (n own : Nat)
    (hn : l.node = some own) :
    (stepPP cfg p c s l b (.res n)).2.2.1 = .hDbg0 { who := n, own := own } := by
  simp [stepPP, hn]

/-- 3. the value taken out of the cell is handed back / released only when the walk is `done` -/
theorem release_only_after_walk (st : State) (t : Nat) (b : Bool) (c out old : Nat) (isStore : Bool) (pp : PP)
    (hop : (st.th t).op = .swapPay c out old isStore pp)
    (hnot : (stepPP st.cfg old c st.sh (st.th t).loc b pp).2.2.1 ≠ .done) :
    ∃ pp', ((microStep st t b).1.th t).op = .swapPay c out old isStore pp' := by
  simp only [microStep, hop]
  exact ⟨_, by rw [upd_same]⟩

/-- 5. on the fallback path the candidate's count is touched only after the confirming swap returned
    the reader's own generation -/
theorem fallback_inc_only_after_confirm (cfg : Cfg) (c : Nat) (s : Shared) (l : Locals) (b : Bool) (lp : LP)
    (cand : Nat) (h : (stepLP cfg c s l b lp).2.2.1 = .fokInc cand) :
    ∃ g, lp = .f5 g cand ∧ (s.nodes (l.node.getD 0)).control = .gen g := by
  have hs := C08.stepLP_succ cfg c s l b lp
  rw [h] at hs
  cases lp with
  | f5 g cand' =>
    simp only [stepLP] at h
    split at h
    · rename_i hx
      split at h
      · cases h
      · cases h; exact ⟨g, rfl, hx⟩
    · split at h <;> cases h
  | _ => simp [C08.succ] at hs

/-- a replacement is taken only from the envelope the control word named -/
theorem replacement_only_from_named_envelope (cfg : Cfg) (c : Nat) (s : Shared) (l : Locals) (b : Bool)
    (g cand j : Nat) (h : (stepLP cfg c s l b (.f5 g cand)).2.2.1 = .fr1 cand j) :
    (s.nodes (l.node.getD 0)).control = .env j := by
  simp only [stepLP] at h
  split at h
  · split at h <;> cases h
  · split at h
    · rename_i hx; simp only [LP.fr1.injEq] at h; rw [← h.2]; exact hx
    · cases h

/-! ## The accounting clause, globally (`Inv/Alive.lean`) -/

/-- **containers and handles are counted**: for every value, in the end state of every execution
    that keeps the program discipline (`EnvRun0`), has no successful hand-over and ends without a
    fault: strong count ≥ containers holding it + handles denoting it -/
theorem C01_count_covers_containers_and_handles (K N T : Nat) (hK : 0 < K) (cfg : Cfg) (progs : Nat → List (String × Op))
    (sched : List (Nat × Bool)) (he : EnvRun0 K N T (State.initial cfg progs) sched)
    (hf : (run (State.initial cfg progs) sched).sh.fault = none) (a : Nat) (ha : a ≠ 0) :
    sumN (fun c => ind ((run (State.initial cfg progs) sched).sh.cells c = some a)) N +
      sumN (fun h => ind ((run (State.initial cfg progs) sched).sh.hreg h = some a)) N ≤
    ((run (State.initial cfg progs) sched).sh.heap a).cnt :=
  count_covers_containers_and_handles K N T hK cfg progs sched he hf a ha

/-- the container's own stored copy keeps the value alive -/
theorem C01_stored_value_alive (K N T : Nat) (hK : 0 < K) (cfg : Cfg) (progs : Nat → List (String × Op))
    (sched : List (Nat × Bool)) (he : EnvRun0 K N T (State.initial cfg progs) sched)
    (hf : (run (State.initial cfg progs) sched).sh.fault = none) (a : Nat) (ha : a ≠ 0)
    (c : Nat) (hc : c < N) (hcell : (run (State.initial cfg progs) sched).sh.cells c = some a) :
    1 ≤ ((run (State.initial cfg progs) sched).sh.heap a).cnt :=
  stored_value_counted K N T hK cfg progs sched he hf a ha c hc hcell

/-- a handle (full load, previous value of `swap`/`compare_and_swap`/`rcu`/`into_inner`) keeps the
    value alive -/
theorem C01_handle_value_alive (K N T : Nat) (hK : 0 < K) (cfg : Cfg) (progs : Nat → List (String × Op))
    (sched : List (Nat × Bool)) (he : EnvRun0 K N T (State.initial cfg progs) sched)
    (hf : (run (State.initial cfg progs) sched).sh.fault = none) (a : Nat) (ha : a ≠ 0)
    (h : Nat) (hh : h < N) (hreg : (run (State.initial cfg progs) sched).sh.hreg h = some a) :
    1 ≤ ((run (State.initial cfg progs) sched).sh.heap a).cnt :=
  handle_value_counted K N T hK cfg progs sched he hf a ha h hh hreg

/-- a guard that owns its reference (no debt) keeps the value alive -/
theorem C01_owned_guard_value_alive (K N T : Nat) (hK : 0 < K) (cfg : Cfg) (progs : Nat → List (String × Op))
    (sched : List (Nat × Bool)) (he : EnvRun0 K N T (State.initial cfg progs) sched)
    (hf : (run (State.initial cfg progs) sched).sh.fault = none) (a : Nat) (ha : a ≠ 0)
    (g : Nat) (hg : g < N) (gd : Guard) (hreg : (run (State.initial cfg progs) sched).sh.greg g = some gd)
    (hp : gd.ptr = a) (hd : gd.debt = none) :
    1 ≤ ((run (State.initial cfg progs) sched).sh.heap a).cnt :=
  owned_guard_counted K N T hK cfg progs sched he hf a ha g hg gd hreg hp hd

/-- the value a writer has replaced is alive for the whole of the writer's walk (it is released
    only afterwards: `release_only_after_walk`) -/
theorem C01_replaced_value_alive_during_walk (K N T : Nat) (hK : 0 < K) (cfg : Cfg) (progs : Nat → List (String × Op))
    (sched : List (Nat × Bool)) (he : EnvRun0 K N T (State.initial cfg progs) sched)
    (hf : (run (State.initial cfg progs) sched).sh.fault = none) (old : Nat) (ha : old ≠ 0)
    (t : Nat) (ht : t < T) (c out : Nat) (isStore : Bool) (pp : PP)
    (hop : ((run (State.initial cfg progs) sched).th t).op = .swapPay c out old isStore pp) :
    1 ≤ ((run (State.initial cfg progs) sched).sh.heap old).cnt :=
  replaced_value_counted_during_walk K N T hK cfg progs sched he hf old ha t ht c out isStore pp hop

/-- in every reachable state (no assumption at all) an object with a positive count is alive: the
    flag is cleared only by the decrement that takes the count to zero -/
theorem C01_counted_is_alive {st : State} (h : Reachable st) (a : Nat) (hc : 1 ≤ (st.sh.heap a).cnt) :
    (st.sh.heap a).live = true :=
  HeapOk.reachable h a hc

/-- the container's own stored copy has not been destroyed -/
theorem C01_stored_value_not_destroyed (K N T : Nat) (hK : 0 < K) (cfg : Cfg) (progs : Nat → List (String × Op))
    (sched : List (Nat × Bool)) (he : EnvRun0 K N T (State.initial cfg progs) sched)
    (hf : (run (State.initial cfg progs) sched).sh.fault = none) (a : Nat) (ha : a ≠ 0)
    (c : Nat) (hc : c < N) (hcell : (run (State.initial cfg progs) sched).sh.cells c = some a) :
    ((run (State.initial cfg progs) sched).sh.heap a).live = true :=
  stored_value_live K N T hK cfg progs sched he hf a ha c hc hcell

/-- what a handle denotes has not been destroyed -/
theorem C01_handle_value_not_destroyed (K N T : Nat) (hK : 0 < K) (cfg : Cfg) (progs : Nat → List (String × Op))
    (sched : List (Nat × Bool)) (he : EnvRun0 K N T (State.initial cfg progs) sched)
    (hf : (run (State.initial cfg progs) sched).sh.fault = none) (a : Nat) (ha : a ≠ 0)
    (h : Nat) (hh : h < N) (hreg : (run (State.initial cfg progs) sched).sh.hreg h = some a) :
    ((run (State.initial cfg progs) sched).sh.heap a).live = true :=
  handle_value_live K N T hK cfg progs sched he hf a ha h hh hreg

/-- a guard whose debt has been paid by a writer (its slot does not name the value any more) keeps
    the value alive: it owns the reference the writer added -/
theorem C01_paid_guard_value_alive (K N T : Nat) (hK : 0 < K) (cfg : Cfg) (progs : Nat → List (String × Op))
    (sched : List (Nat × Bool)) (he : EnvRun0 K N T (State.initial cfg progs) sched)
    (hf : (run (State.initial cfg progs) sched).sh.fault = none) (a : Nat) (ha : a ≠ 0)
    (g : Nat) (hg : g < N) (gd : Guard) (hreg : (run (State.initial cfg progs) sched).sh.greg g = some gd)
    (hp : gd.ptr = a) (n i : Nat) (hd : gd.debt = some (n, i))
    (hpaid : ((run (State.initial cfg progs) sched).sh.nodes n).fast i ≠ .ptr a) :
    1 ≤ ((run (State.initial cfg progs) sched).sh.heap a).cnt :=
  paid_guard_counted K N T hK cfg progs sched he hf a ha g hg gd hreg hp n i hd hpaid

/-- **whoever holds a reference that no borrow slot backs keeps the value alive**: a thread whose
    operation in flight accounts for more units of `a` than it claims slots for -/
theorem C01_unit_surplus_alive (K N T : Nat) (hK : 0 < K) (cfg : Cfg) (progs : Nat → List (String × Op))
    (sched : List (Nat × Bool)) (he : EnvRun0 K N T (State.initial cfg progs) sched)
    (hf : (run (State.initial cfg progs) sched).sh.fault = none) (a : Nat) (ha : a ≠ 0)
    (t : Nat) (ht : t < T)
    (hs : (((run (State.initial cfg progs) sched).th t).op.claims a ((run (State.initial cfg progs) sched).th t).loc).length + 1 ≤
      uOp ((run (State.initial cfg progs) sched).th t).op a) :
    ((run (State.initial cfg progs) sched).sh.heap a).live = true ∧
      1 ≤ ((run (State.initial cfg progs) sched).sh.heap a).cnt :=
  unit_surplus_live K N T hK cfg progs sched he hf a ha t ht hs

/-- hence the count operations made on the strength of an owned reference raise no fault — the
    count is never touched after destruction: dropping a handle, … -/
theorem C01_handle_drop_no_fault (K N T : Nat) (hK : 0 < K) (cfg : Cfg) (progs : Nat → List (String × Op))
    (sched : List (Nat × Bool)) (he : EnvRun0 K N T (State.initial cfg progs) sched)
    (hf : (run (State.initial cfg progs) sched).sh.fault = none) (a : Nat) (ha : a ≠ 0)
    (t : Nat) (ht : t < T) (b : Bool)
    (hop : ((run (State.initial cfg progs) sched).th t).op = .droph a) :
    (microStep (run (State.initial cfg progs) sched) t b).1.sh.fault = none :=
  count_step_no_fault_all K N T hK cfg progs sched he hf a ha t ht b (by rw [hop]; rfl)

/-- … cloning a handle, … -/
theorem C01_handle_clone_no_fault (K N T : Nat) (hK : 0 < K) (cfg : Cfg) (progs : Nat → List (String × Op))
    (sched : List (Nat × Bool)) (he : EnvRun0 K N T (State.initial cfg progs) sched)
    (hf : (run (State.initial cfg progs) sched).sh.fault = none) (a : Nat) (ha : a ≠ 0)
    (t : Nat) (ht : t < T) (b : Bool) (h h2 : Nat)
    (hop : ((run (State.initial cfg progs) sched).th t).op = .cloneh h h2 a) :
    (microStep (run (State.initial cfg progs) sched) t b).1.sh.fault = none :=
  count_step_no_fault_all K N T hK cfg progs sched he hf a ha t ht b (by rw [hop]; rfl)

/-- … the writer's release of the value it replaced, after its walk, … -/
theorem C01_writer_release_no_fault (K N T : Nat) (hK : 0 < K) (cfg : Cfg) (progs : Nat → List (String × Op))
    (sched : List (Nat × Bool)) (he : EnvRun0 K N T (State.initial cfg progs) sched)
    (hf : (run (State.initial cfg progs) sched).sh.fault = none) (old : Nat) (ha : old ≠ 0)
    (t : Nat) (ht : t < T) (b : Bool) (c : Nat)
    (hop : ((run (State.initial cfg progs) sched).th t).op = .swapDrop c old) :
    (microStep (run (State.initial cfg progs) sched) t b).1.sh.fault = none :=
  count_step_no_fault_all K N T hK cfg progs sched he hf old ha t ht b (by rw [hop]; rfl)

/-- … and a guard drop that found its debt paid and gives the reference back. -/
theorem C01_paid_guard_release_no_fault (K N T : Nat) (hK : 0 < K) (cfg : Cfg) (progs : Nat → List (String × Op))
    (sched : List (Nat × Bool)) (he : EnvRun0 K N T (State.initial cfg progs) sched)
    (hf : (run (State.initial cfg progs) sched).sh.fault = none) (p : Nat) (ha : p ≠ 0)
    (t : Nat) (ht : t < T) (b : Bool)
    (hop : ((run (State.initial cfg progs) sched).th t).op = .dropg (.dec p)) :
    (microStep (run (State.initial cfg progs) sched) t b).1.sh.fault = none :=
  count_step_no_fault_all K N T hK cfg progs sched he hf p ha t ht b (by rw [hop]; rfl)

/-! ## The hazard clause -/

/-- **one step of a writer's walk keeps a slot ahead of it, unless the step is the attempt on that
    very slot** — the order of `pay_all` (nodes in list order, slots in index order) is what makes a
    published debt visible to every writer that starts its walk after the publication -/
theorem C01_walk_passes_no_slot_unseen (cfg : Cfg) (p c : Nat) (s : Shared) (l : Locals) (b : Bool) (pp : PP) (L : List Nat)
    (hc : chainFrom (nextOf s) s.head L) (n i : Nat) (hn : n ∈ L) (hi : i < slotCnt)
    (hnode : pp.beforeNode = false → l.node.isSome = true) (h : pp.ahead L n i) :
    (stepPP cfg p c s l b pp).2.2.1.ahead L n i ∨ pp = .slot n i :=
  ahead_step cfg p c s l b pp L hc n i hn hi hnode h

/-- **the hazard invariant is inductive**: one step of any thread below `T` whose next operation
    uses registers and cells below `N` and creates a container on a fresh cell only keeps it (the
    list may grow at the front); containers may be consumed and dropped -/
theorem C01_hazard_invariant_step {N T : Nat} {st : State} {L : List Nat} (h : HazAllD N T st L) (t : Nat) (ht : t < T)
    (b : Bool) (htame : Tame2 N st t) : ∃ pre, HazAllD N T (microStep st t b).1 (pre ++ L) :=
  h.step t ht b htame

/-- **the `busy` discipline is inductive**: a container being destroyed is worked on by its
    destroyer alone and keeps its value until the destroyer's walk is over (in Rust: `into_inner`
    and `Drop` take the container by value) -/
theorem C01_busy_invariant_step {N T : Nat} {st : State} (h : BusyInv N T st) (hx : ∀ t, (st.th t).op.cxok)
    (t : Nat) (ht : t < T) (b : Bool) (htame : Tame2 N st t) : BusyInv N T (microStep st t b).1 :=
  h.step hx t ht b htame

/-- **a confirmed slot protects the value it names**: along every execution of threads that use
    registers and cells below `N` and create containers on fresh cells only — any number of
    threads, any programs, any schedule; containers may be consumed and dropped — a fast slot that
    names `a`, and that its owner is not still in the middle of confirming or taking back, has `a`
    still stored in a container that nobody is destroying; or a thread that took `a` out of a
    container, or is destroying the container that holds it, is walking the list and has this slot
    still ahead of it; or it is the debt of the guard a destroyer loaded while helping (the
    container it is destroying still holds `a`). -/
theorem C01_confirmed_slot_protects_its_value (N T : Nat) (cfg : Cfg) (progs : Nat → List (String × Op))
    (sched : List (Nat × Bool)) (ht : TameRun2 N T (State.initial cfg progs) sched) (n i a : Nat) (hi : i < slotCnt)
    (hs : ((run (State.initial cfg progs) sched).sh.nodes n).fast i = .ptr a)
    (hconf : ∀ o, ((run (State.initial cfg progs) sched).th o).loc.node = some n →
      ¬ Unc ((run (State.initial cfg progs) sched).th o).op.lp? a i) :
    (∃ c, c < N ∧ (run (State.initial cfg progs) sched).sh.cells c = some a ∧
        (run (State.initial cfg progs) sched).ctaken c = false) ∨
      (∃ w pp L, ((run (State.initial cfg progs) sched).th w).op.walkC? = some (a, pp) ∧ pp.ahead L n i) ∨
      (∃ o, ((run (State.initial cfg progs) sched).th o).op.consHold n i a) :=
  confirmed_slot_protected N T cfg progs sched ht n i a hi hs hconf

/-- the value a thread is walking the list for is counted: the walker holds the reference it took
    out of the container until the walk is over (`swap`/`store`, `compare_and_swap`, `rcu`) -/
theorem C01_walked_value_alive (K N T : Nat) (hK : 0 < K) (cfg : Cfg) (progs : Nat → List (String × Op))
    (sched : List (Nat × Bool)) (he : EnvRun0 K N T (State.initial cfg progs) sched)
    (hf : (run (State.initial cfg progs) sched).sh.fault = none) (a : Nat) (ha : a ≠ 0)
    (w : Nat) (pp : PP) (hw : ((run (State.initial cfg progs) sched).th w).op.walk? = some (a, pp)) :
    1 ≤ ((run (State.initial cfg progs) sched).sh.heap a).cnt :=
  walked_value_counted K N T hK cfg progs sched he hf a ha w pp hw

/-- **C01 for a borrowed guard (partial).**  Thread `o` owns node `n` and is between two operations;
    fast slot `i` of `n` names `a` — a borrowed guard of `o`, taking no reference of its own.  Then
    `a` is alive (its count is positive and it has not been destroyed), whatever the other threads
    do — replace the value, consume or drop the container: along every execution that satisfies
    the assumptions of the ledger (`EnvRun0`) and has raised no fault.

    Full statement: the same in every reachable state.  Missing: executions with a successful
    hand-over of a replacement (the ledger's `NoEnv`), and that no fault is raised at all. -/
theorem C01_borrowed_guard_alive_partial (K N T : Nat) (hK : 0 < K) (cfg : Cfg) (progs : Nat → List (String × Op))
    (sched : List (Nat × Bool)) (he : EnvRun0 K N T (State.initial cfg progs) sched)
    (hf : (run (State.initial cfg progs) sched).sh.fault = none) (a : Nat) (ha : a ≠ 0)
    (o n i : Nat) (hi : i < slotCnt)
    (hidle : ((run (State.initial cfg progs) sched).th o).op = .idle)
    (hnode : ((run (State.initial cfg progs) sched).th o).loc.node = some n)
    (hs : ((run (State.initial cfg progs) sched).sh.nodes n).fast i = .ptr a) :
    1 ≤ ((run (State.initial cfg progs) sched).sh.heap a).cnt ∧
      ((run (State.initial cfg progs) sched).sh.heap a).live = true :=
  resting_guard_alive_env K N T hK cfg progs sched he hf a ha o n i hi hidle hnode hs

/-- the same for any confirmed slot, whoever its owner and whatever it is doing (a thread in the
    middle of another operation holds its earlier guards too) -/
theorem C01_confirmed_slot_value_alive_partial (K N T : Nat) (hK : 0 < K) (cfg : Cfg) (progs : Nat → List (String × Op))
    (sched : List (Nat × Bool)) (he : EnvRun0 K N T (State.initial cfg progs) sched)
    (hf : (run (State.initial cfg progs) sched).sh.fault = none) (a : Nat) (ha : a ≠ 0)
    (n i : Nat) (hi : i < slotCnt) (hs : ((run (State.initial cfg progs) sched).sh.nodes n).fast i = .ptr a)
    (hconf : ∀ o, ((run (State.initial cfg progs) sched).th o).loc.node = some n →
      ¬ Unc ((run (State.initial cfg progs) sched).th o).op.lp? a i) :
    1 ≤ ((run (State.initial cfg progs) sched).sh.heap a).cnt ∧
      ((run (State.initial cfg progs) sched).sh.heap a).live = true :=
  confirmed_slot_value_alive K N T hK cfg progs sched he (TameRun2.of_env he) hf a ha n i hi hs hconf

/-- **C01 for every guard (partial).**  The value of every guard in a register — with no debt, with
    a debt that has been paid, with a debt the slot still shows (borrowed), even while its owner is
    publishing the same value through the same slot again — has a positive count and has not been
    destroyed, whatever any thread is doing, including consuming or dropping the container the
    guard came from: along every execution that satisfies the assumptions of the ledger and has
    raised no fault.  (A guard handed to the caller never has a debt in the helping slot: the
    fallback path settles it before it returns.)

    Full statement: the same in every reachable state.  Missing: executions with a successful
    hand-over of a replacement (`NoEnv`), and that no fault is raised at all (the theorem is about
    fault-free prefixes). -/
theorem C01_guard_value_alive_partial (K N T : Nat) (hK : 0 < K) (cfg : Cfg) (progs : Nat → List (String × Op))
    (sched : List (Nat × Bool)) (he : EnvRun0 K N T (State.initial cfg progs) sched)
    (hf : (run (State.initial cfg progs) sched).sh.fault = none) (a : Nat) (ha : a ≠ 0)
    (g : Nat) (hg : g < N) (gd : Guard) (hreg : (run (State.initial cfg progs) sched).sh.greg g = some gd)
    (hp : gd.ptr = a) :
    1 ≤ ((run (State.initial cfg progs) sched).sh.heap a).cnt ∧
      ((run (State.initial cfg progs) sched).sh.heap a).live = true :=
  guard_value_alive_env K N T hK cfg progs sched he hf a ha g hg gd hreg hp

/-- … hence dereferencing a guard raises no use-after-free fault -/
theorem C01_guard_deref_no_fault_partial (K N T : Nat) (hK : 0 < K) (cfg : Cfg) (progs : Nat → List (String × Op))
    (sched : List (Nat × Bool)) (he : EnvRun0 K N T (State.initial cfg progs) sched)
    (hf : (run (State.initial cfg progs) sched).sh.fault = none)
    (t g : Nat) (hg : g < N) (b : Bool) (txt : String) (rest : List (String × Op))
    (hidle : ((run (State.initial cfg progs) sched).th t).op = .idle)
    (hprog : ((run (State.initial cfg progs) sched).th t).prog = (txt, .gderef g) :: rest) :
    (microStep (run (State.initial cfg progs) sched) t b).1.sh.fault = none :=
  gderef_no_fault_env K N T hK cfg progs sched he hf t g hg b txt rest hidle hprog

/-! ## No reference count is touched after destruction -/

/-- **the steps that touch a count are exactly those `OpSt.touch` names**: a step of an operation
    whose `touch` is `none` leaves every object as it is (count and liveness), except the address
    the allocator hands out for a new value -/
theorem C01_touch_exhaustive (st : State) (t : Nat) (b : Bool) (h : (st.th t).op.touch = none) (a : Nat) :
    (microStep st t b).1.sh.heap a = st.sh.heap a ∨ ∃ v, a = (alloc st.sh v).2.1 :=
  microStep_heap_of_no_touch st t b h a

/-- **C01, second clause (partial): a reference count is touched only while the object is alive.**
    For every step of every operation that increments or decrements the count of a non-null
    object — cloning and dropping handles, promoting a guard (`Guard::into_inner`, `load_full`),
    releasing a guard whose debt was paid, the writer's spare reference and its increment per paid
    slot, releasing the replaced value, a rejected `new`, an unneeded replacement, the container's
    own reference at `Drop` — the object has a positive count and has not been destroyed, so the
    step raises no use-after-free or double-free fault: along every execution that satisfies the
    ledger's assumptions and has raised no fault so far.

    The one exception here: the increment of the fallback path's candidate (`LP.fokInc`), protected
    by the helping protocol (control word and generation): `C01_fallback_candidate_alive_partial`;
    `C01_every_count_touched_only_while_alive_partial` is this statement without the exception. -/
theorem C01_count_touched_only_while_alive_partial (K N T : Nat) (hK : 0 < K) (cfg : Cfg)
    (progs : Nat → List (String × Op)) (sched : List (Nat × Bool))
    (he : EnvRun0 K N T (State.initial cfg progs) sched)
    (hf : (run (State.initial cfg progs) sched).sh.fault = none) (a : Nat) (ha : a ≠ 0)
    (t : Nat) (ht : t < T)
    (htouch : ((run (State.initial cfg progs) sched).th t).op.touch = some a)
    (hnh : ((run (State.initial cfg progs) sched).th t).op.lp? ≠ some (.fokInc a)) :
    1 ≤ ((run (State.initial cfg progs) sched).sh.heap a).cnt ∧
      ((run (State.initial cfg progs) sched).sh.heap a).live = true :=
  touched_object_alive_all K N T hK cfg progs sched he hf a ha t ht htouch

theorem C01_count_step_no_fault_partial (K N T : Nat) (hK : 0 < K) (cfg : Cfg)
    (progs : Nat → List (String × Op)) (sched : List (Nat × Bool))
    (he : EnvRun0 K N T (State.initial cfg progs) sched)
    (hf : (run (State.initial cfg progs) sched).sh.fault = none) (a : Nat) (ha : a ≠ 0)
    (t : Nat) (ht : t < T) (b : Bool)
    (htouch : ((run (State.initial cfg progs) sched).th t).op.touch = some a)
    (hnh : ((run (State.initial cfg progs) sched).th t).op.lp? ≠ some (.fokInc a)) :
    (microStep (run (State.initial cfg progs) sched) t b).1.sh.fault = none :=
  count_step_no_fault_all K N T hK cfg progs sched he hf a ha t ht b htouch

/-- **the helping slot, inside the window.**  While a reader of the fallback path is between the
    read of its candidate and the end of its window (`confirm`'s exchange of the control word), the
    candidate is still the content of the container it was read from, or a writer that took it out
    of that very container is walking the list and has not got past the `help` on the reader's node:
    it has not reached the node, or it is inside `help` on it and has read nothing yet or the
    reader's generation.  Partial: along executions in which no hand-over succeeds (`EnvRun0`), which
    is exactly what keeps such a writer from getting past (its hand-over would succeed). -/
theorem C01_candidate_protected_in_window_partial (K N T : Nat) (cfg : Cfg) (progs : Nat → List (String × Op))
    (sched : List (Nat × Bool)) (he : EnvRun0 K N T (State.initial cfg progs) sched)
    (hf : (run (State.initial cfg progs) sched).sh.fault = none)
    (o n c g a : Nat) (lp : LP) (hlp : ((run (State.initial cfg progs) sched).th o).op.lp? = some lp)
    (hcand : lp.cand? = some (g, a)) (hnode : ((run (State.initial cfg progs) sched).th o).loc.node = some n)
    (hcell : ((run (State.initial cfg progs) sched).th o).op.cell? = some c) :
    (run (State.initial cfg progs) sched).sh.cells c = some a ∨
      ∃ w pp L, ((run (State.initial cfg progs) sched).th w).op.walkC? = some (a, pp) ∧
        ((run (State.initial cfg progs) sched).th w).op.cell? = some c ∧ pp.preHelp L n g :=
  candidate_protected_in_window K N T cfg progs sched he hf o n c g a lp hlp hcand hnode hcell

/-- **the helping slot, confirmed.**  While the reader holds its confirmed candidate in the helping
    slot of its node and has not yet taken its own reference, the value is in a container nobody is
    destroying, or a writer that took it out has that slot still ahead of its walk (it will pay the
    debt), or the reader is itself the destroyer of the container that holds it. -/
theorem C01_confirmed_helping_slot_protects_its_value_partial (K N T : Nat) (cfg : Cfg)
    (progs : Nat → List (String × Op)) (sched : List (Nat × Bool))
    (he : EnvRun0 K N T (State.initial cfg progs) sched)
    (hf : (run (State.initial cfg progs) sched).sh.fault = none)
    (o n a : Nat) (lp : LP) (hlp : ((run (State.initial cfg progs) sched).th o).op.lp? = some lp)
    (hconf : lp.confirmed a) (hnode : ((run (State.initial cfg progs) sched).th o).loc.node = some n)
    (hs : ((run (State.initial cfg progs) sched).sh.nodes n).hslot = .ptr a) :
    (∃ c, c < N ∧ (run (State.initial cfg progs) sched).sh.cells c = some a ∧
        (run (State.initial cfg progs) sched).ctaken c = false) ∨
      (∃ w pp L, ((run (State.initial cfg progs) sched).th w).op.walkC? = some (a, pp) ∧ pp.ahead L n slotCnt) ∨
      (((run (State.initial cfg progs) sched).th o).op.cons = true ∧
        ∃ pp, ((run (State.initial cfg progs) sched).th o).op.walkC? = some (a, pp)) :=
  confirmed_hslot_protected K N T cfg progs sched he hf o n a lp hlp hconf hnode hs

/-- **the fallback's own reference is taken from a live object**: at the step at which the fallback
    path increments the count of the candidate it has confirmed (`T::inc` in
    `HybridProtection::fallback`), the candidate has not been destroyed and its count is positive. -/
theorem C01_fallback_candidate_alive_partial (K N T : Nat) (hK : 0 < K) (cfg : Cfg)
    (progs : Nat → List (String × Op)) (sched : List (Nat × Bool))
    (he : EnvRun0 K N T (State.initial cfg progs) sched)
    (hf : (run (State.initial cfg progs) sched).sh.fault = none) (a : Nat) (ha : a ≠ 0)
    (t : Nat) (ht : t < T)
    (hlp : ((run (State.initial cfg progs) sched).th t).op.lp? = some (.fokInc a)) :
    1 ≤ ((run (State.initial cfg progs) sched).sh.heap a).cnt ∧
      ((run (State.initial cfg progs) sched).sh.heap a).live = true :=
  fallback_candidate_alive K N T hK cfg progs sched he hf a ha t ht hlp

/-- **no reference count is touched after destruction — every step, the fallback path included.**
    `C01_count_touched_only_while_alive_partial` without its exception: whatever step of whatever
    operation increments or decrements the count of a (non-null) object, the object is alive and
    its count positive — so the step raises no fault.  Partial only in the executions covered
    (`EnvRun0`: the program discipline, room in the pool, no successful hand-over). -/
theorem C01_every_count_touched_only_while_alive_partial (K N T : Nat) (hK : 0 < K) (cfg : Cfg)
    (progs : Nat → List (String × Op)) (sched : List (Nat × Bool))
    (he : EnvRun0 K N T (State.initial cfg progs) sched)
    (hf : (run (State.initial cfg progs) sched).sh.fault = none) (a : Nat) (ha : a ≠ 0)
    (t : Nat) (ht : t < T)
    (htouch : ((run (State.initial cfg progs) sched).th t).op.touch = some a) :
    1 ≤ ((run (State.initial cfg progs) sched).sh.heap a).cnt ∧
      ((run (State.initial cfg progs) sched).sh.heap a).live = true :=
  touched_object_alive_all K N T hK cfg progs sched he hf a ha t ht htouch

theorem C01_every_count_step_no_fault_partial (K N T : Nat) (hK : 0 < K) (cfg : Cfg)
    (progs : Nat → List (String × Op)) (sched : List (Nat × Bool))
    (he : EnvRun0 K N T (State.initial cfg progs) sched)
    (hf : (run (State.initial cfg progs) sched).sh.fault = none) (a : Nat) (ha : a ≠ 0)
    (t : Nat) (ht : t < T) (b : Bool)
    (htouch : ((run (State.initial cfg progs) sched).th t).op.touch = some a) :
    (microStep (run (State.initial cfg progs) sched) t b).1.sh.fault = none :=
  count_step_no_fault_all K N T hK cfg progs sched he hf a ha t ht b htouch

/-- **C01 on the machine, for the executions of the ledger: no fault is ever raised.**  Along every
    execution — any number of threads below `T`, any programs over registers and containers below
    `N`, any schedule, any wrap modulus — that keeps the program discipline (registers are not
    raced on, containers are created on fresh cells), has room in the pool, links at most `K` nodes
    and in which no hand-over succeeds, the fault flag of the machine stays clear: no use-after-free
    (no count operation and no dereference on a destroyed object), no double free, no assertion or
    `expect` of the crate, no stuck state.  The proof composes everything above: a step that touches
    a count touches a live object (`C01_every_count_touched_only_while_alive_partial`, null is never
    counted: `Inv/NonNull`); a dereference through a guard finds its value alive
    (`C01_guard_deref_no_fault_partial`, `C06_closure_sees_live_value_partial`); every other step can
    raise nothing but an assertion (`Inv/FaultFree`), and no assertion fires (`C13`).  Partial only
    in the executions covered: hand-overs of the helping protocol are excluded (`NoEnv`). -/
theorem C01_no_fault_ever_partial (K N T : Nat) (hK : 0 < K) (cfg : Cfg)
    (progs : Nat → List (String × Op)) (sched : List (Nat × Bool))
    (he : EnvRun0 K N T (State.initial cfg progs) sched) :
    (run (State.initial cfg progs) sched).sh.fault = none :=
  env_run_fault_free K N T hK cfg progs sched he

/-- … in particular no use-after-free: the statement of C01 (`fault ≠ uaf`) for these executions -/
theorem C01_no_use_after_free_partial (K N T : Nat) (hK : 0 < K) (cfg : Cfg)
    (progs : Nat → List (String × Op)) (sched : List (Nat × Bool))
    (he : EnvRun0 K N T (State.initial cfg progs) sched) (what : String) (a : Nat) :
    (run (State.initial cfg progs) sched).sh.fault ≠ some (.uaf what a) := by
  rw [env_run_fault_free K N T hK cfg progs sched he]; intro h; cases h

/-- … and the next step of any thread, whatever it does, raises none either -/
theorem C01_next_step_no_fault_partial (K N T : Nat) (hK : 0 < K) (cfg : Cfg)
    (progs : Nat → List (String × Op)) (sched : List (Nat × Bool))
    (he : EnvRun0 K N T (State.initial cfg progs) sched) (t : Nat) (ht : t < T) (b : Bool)
    (hok : EnvOK0 K N (run (State.initial cfg progs) sched) t b) :
    (microStep (run (State.initial cfg progs) sched) t b).1.sh.fault = none :=
  env_step_no_fault K N T hK cfg progs sched he (env_run_fault_free K N T hK cfg progs sched he) t ht b
    (fun txt o rest hp => (hok.next txt o rest hp).1)

/-- non-vacuity of `C01_no_fault_ever_partial` and of everything stated for `EnvRun0`: the
    assumptions are met by concrete executions of any length (`Inv/EnvEx`: `envRun0B` is an
    executable, sound check of `EnvRun0`) — here the 93 steps of `hazSchedH2`: a reader on the
    fallback path publishes its candidate, a concurrent writer replaces the content of the
    container, walks the list, finds the reader's window closed, pays the debt in the helping slot;
    the reader's own pay-off fails and it gives its extra reference back; both threads exit.
    (`Inv/EnvEx` also checks a 503-step round-robin execution of three threads on the default
    strategy — `exM`, `schedM`: `load`, `rcu`, `store`, `compare_and_swap`, `load_full`, `swap`.) -/
example : EnvRun0 2 4 2 hazExH hazSchedH2 ∧ ((run hazExH hazSchedH2).th 0).op = .finished ∧
    ((run hazExH hazSchedH2).th 1).op = .finished ∧ ((run hazExH hazSchedH2).sh.heap 1).cnt = 1 :=
  ⟨envRun0_of_B ⟨_, _, [], rfl⟩ (by decide +kernel), by decide +kernel⟩

/-- non-vacuity of the helping-slot theorems: the concrete execution `hazSchedH` of `hazExH`
    (Inv/HazH4) is tame and fault-free, leaves no envelope, and ends with thread 0 about to take
    its own reference to value 1 (`fokInc 1`), which the helping slot of its node names and which is
    in no container any more; thread 1, which took it out, is walking and has not reached the list -/
example : TameRun2 4 2 hazExH hazSchedH ∧ ((run hazExH hazSchedH).th 0).op.lp? = some (.fokInc 1) ∧
    ((run hazExH hazSchedH).th 0).op.touch = some 1 ∧
    ((run hazExH hazSchedH).sh.nodes 0).hslot = .ptr 1 ∧ (run hazExH hazSchedH).sh.cells 0 = some 2 ∧
    (run hazExH hazSchedH).sh.fault = none ∧ ((run hazExH hazSchedH).th 1).op.walkC? = some (1, .inc) :=
  ⟨tameRun2_of_B (by decide +kernel), by decide +kernel⟩

/-- non-vacuity: a thread about to drop a handle to object 1 is at a touching step -/
example : (OpSt.droph 1).touch = some 1 ∧ (OpSt.droph 1).lp? ≠ some (.fokInc 1) ∧
    (OpSt.swapPay 0 0 1 true .inc).touch = some 1 ∧ (OpSt.load 0 0 (.a3 1 0)).touch = none :=
  ⟨rfl, by simp [OpSt.lp?], rfl, rfl⟩

/-- non-vacuity of the hazard theorems: the concrete execution `hazSched` of `hazEx` (Inv/Haz6) is
    tame and fault-free and ends with thread 0 resting on a borrowed guard of value 1 that is in no
    container any more, thread 1 at the start of its walk for it; `hazSchedD` of `hazExD`
    (Inv/HazD4) ends with thread 0 resting on a borrowed guard of value 1 whose container thread 1
    has begun to drop -/
example : TameRun 4 hazEx hazSched ∧ ((run hazEx hazSched).th 0).op = .idle ∧
    ((run hazEx hazSched).sh.nodes 0).fast 0 = .ptr 1 ∧ (run hazEx hazSched).sh.cells 0 = some 2 :=
  ⟨tameRun_of_B (by decide +kernel), by decide +kernel⟩
example : TameRun2 4 2 hazExD hazSchedD ∧ ((run hazExD hazSchedD).th 0).op = .idle ∧
    ((run hazExD hazSchedD).sh.nodes 0).fast 0 = .ptr 1 ∧ (run hazExD hazSchedD).ctaken 0 = true :=
  ⟨tameRun2_of_B (by decide +kernel), by decide +kernel⟩

/-!
What is left of C01 on the machine: the composition with executions in which a hand-over
*succeeds* (a writer's replacement reaches the reader through the envelope: `NoEnv` is an assumption
of `EnvRun0`).  There the protection of the reader's candidate goes through the generation in the
control word and holds only up to a wrap of the generation counter during one stalled help, as the
crate's documentation says; the ledger (`Inv/Acct*`) does not account for envelopes either.
-/

end C01
