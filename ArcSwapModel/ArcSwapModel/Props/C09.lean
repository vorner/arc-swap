import ArcSwapModel.M.Frame
import ArcSwapModel.Inv.ListInv
import ArcSwapModel.Inv.Solo2
import ArcSwapModel.Props.C08
import ArcSwapModel.Tie.DebtPayAll
import ArcSwapModel.Tie.HelpingHelp
import ArcSwapModel.Tie.ListTraverse
import ArcSwapModel.Tie.ListNodeGet
import ArcSwapModel.Tie.ListCheckCooldown
import ArcSwapModel.Tie.ListHelp
import ArcSwapModel.Tie.HybridCas
import ArcSwapModel.Tie.LibRcu
import ArcSwapModel.Tie.LibSwap
import ArcSwapModel.Tie.LibDrop
import ArcSwapModel.Tie.LibIntoInner
import ArcSwapModel.Tie.HybridDrop
import ArcSwapModel.Tie.Sites

/-!
# C09 — writers and guards never block
(partial: no state waits, every retry is caused by another thread's progress, and the writer's walk
running alone ends within `25·nodes + 4` own steps when no reader is inside its fallback window —
see the end for what is not composed)

The crate has exactly four retry loops outside the (wait-free) read path: the writer's helping loop
(`Slots::help`), the `LIST_HEAD` compare-exchange loop of `Node::get`, the loop of
`compare_and_swap` and the loop of `rcu`.  Proved here, for **every** shared state (so from any
reachable state, with the other threads frozen anywhere — mid-load, between `F2` and `F5`, inside
another writer's walk, holding any number of guards):

* no state of any sub-machine is a waiting state: a step always moves the program counter, except
  for a spuriously failing weak compare-exchange;
* each loop goes round again only if the word it has just read differs from what it read before —
  i.e. only because another thread made progress in between (or the weak exchange failed
  spuriously).  With all other threads suspended no such change can happen.

The walk itself visits each node of the list snapshot once (`rel n` moves to `next n`).
-/

namespace C09
open M Consts

/-- **helping loop**: the offer fails only if the control word is no longer the generation read -/
theorem help_retry_means_interference (cfg : Cfg) (p c : Nat) (s : Shared) (l : Locals) (b : Bool)
    (h : HL) (r t m : Nat) :
    ((s.nodes h.who).control = h.ctl → (stepPP cfg p c s l b (.h7 h r t m)).2.2.1 = .h8 h t) ∧
    ((stepPP cfg p c s l b (.h7 h r t m)).2.2.1 ≠ .h8 h t → (s.nodes h.who).control ≠ h.ctl) := by
  constructor
  · intro he; simp [stepPP, he]
  · intro hne he; apply hne; simp [stepPP, he]

/-- **helping loop, other container**: re-reading the control word loops only if it changed -/
theorem help_recheck_means_interference (cfg : Cfg) (p c : Nat) (s : Shared) (l : Locals) (b : Bool) (h : HL) :
    (s.nodes h.who).control = h.ctl → (stepPP cfg p c s l b (.h3 h)).2.2.1 = .hend h := by
  intro he; simp [stepPP, he]

/-- **`LIST_HEAD` loop**: linking a new node fails only if the head moved (or spuriously) -/
theorem head_retry_means_interference (s : Shared) (b : Bool) (k : Nat) (h : Option Nat) :
    b = false → s.head = h → (stepNG s b (.allocCas (some k) h)).2.1 = .done k := by
  intro hb hh; subst hb
  simp only [stepNG, setNode_head, hh]
  simp

/-- **`compare_and_swap` loop**: the exchange fails only if the cell no longer holds `current`
    (or spuriously); then, and only then, the call goes round again -/
theorem cas_retry_means_interference (cfg : Cfg) (c cur new : Nat) (s : Shared) (l : Locals) (old : Guard) :
    s.cells c = some cur → ∃ pp, (stepCP cfg c cur new s l false (.cx old)).2.2.1 = .pay old pp := by
  intro he; exact ⟨.start, by simp [stepCP, he]⟩

/-- **`rcu` loop**: another attempt is made only if `compare_and_swap` returned a pointer different
    from the one passed to the closure — by `C05_iff`, only if the cell had been changed by someone
    else before the exchange -/
theorem rcu_retry_means_interference (cfg : Cfg) (c : Nat) (s : Shared) (l : Locals) (b : Bool) (tries : Nat)
    (cur : Guard) (a : Nat) (cp : CP) (prev : Guard)
    (hcp : (stepCP cfg c cur.ptr a s l b cp).2.2.1 = .done prev) (hsame : prev.ptr = cur.ptr) :
    ∀ prev' gd, (stepRP cfg c s l b tries (.cas cur a cp)).2.2.1 ≠ .dropCurLoop prev' gd ∧
      (stepRP cfg c s l b tries (.cas cur a cp)).2.2.1 ≠ .attempt prev' := by
  intro prev' gd
  rw [stepRP_cas, hcp]
  simp only [RP.afterCas, hsame, ↓reduceIte]
  constructor <;> (repeat' split) <;> exact fun e => by cases e

/-- **the walk**: after a node has been dealt with the writer moves on to its successor; it never
    stays, whatever the slots contain and whoever holds them -/
theorem walk_moves_on (cfg : Cfg) (p c : Nat) (s : Shared) (l : Locals) (b : Bool) (n : Nat) :
    (stepPP cfg p c s l b (.rel n)).2.2.1 =
      (match (s.nodes n).next with | some m => .res m | none => .fin) := by
  simp only [stepPP]; cases (s.nodes n).next <;> rfl

/-- no guard-drop or promotion state waits: each is at most three steps (pay, maybe one count) -/
theorem guard_ops_bounded (s : Shared) (gd : GD) (gi : GI) :
    (gd ≠ .done → ∀ p n i, (stepGD s gd).2.1 ≠ .pay p n i) ∧ C08.fuelGI (stepGI s gi).2.1 ≤ C08.fuelGI gi := by
  constructor
  · intro _ p n i
    cases gd <;> simp only [stepGD] <;> (repeat' split) <;> simp
  · by_cases h : gi = .done
    · subst h; exact Nat.le_refl _
    · exact Nat.le_of_lt (C08.gi_step_decreases s gi h)

/-- a slot pay-off never repeats: the walker's position strictly advances within a node -/
theorem slot_advances (cfg : Cfg) (p c : Nat) (s : Shared) (l : Locals) (b : Bool) (n j : Nat) :
    (stepPP cfg p c s l b (.slot n j)).2.2.1 = PP.nextSlot n j ∨
    (stepPP cfg p c s l b (.slot n j)).2.2.1 = .slotInc n j := by
  simp only [stepPP]
  (repeat' split) <;> simp

/-- **the walk's road is finite and only ever shortens**: in every reachable state the nodes form a
    chain `L` without repetition; from any node on it, following `next` runs through the strictly
    shorter suffix behind it to the end; and whatever anybody does next, the chain only grows at
    the front — behind a walker, never ahead of it. -/
theorem C09_walk_road_finite {st : State} (h : Reachable st) :
    ∃ L, ListInv st L ∧ L.Nodup ∧ L.length ≤ st.sh.nNodes ∧
      (∀ n, n ∈ L → ∃ L1 L2, L = L1 ++ n :: L2 ∧ chainFrom (nextOf st.sh) (st.sh.nodes n).next L2) ∧
      (∀ sched, ∃ pre, ListInv (run st sched) (pre ++ L)) := by
  obtain ⟨L, hL⟩ := ListInv.reachable h
  exact ⟨L, hL, chainFrom_nodup hL.1, hL.length_le, fun n hn => chainFrom_next hL.1 n hn,
    fun sched => hL.run (OwnInv.reachable h) sched⟩

/-- **the writer's walk, running alone, ends — a bound for lists of any length.**  In every
    reachable state, a `store`/`swap` that has just exchanged the pointer and starts its walk, with
    every other thread frozen wherever it is and no reader inside its fallback window (all control
    words idle), reaches the end of the walk within `25 · nNodes + 4` of its own steps. -/
theorem C09_walk_bound_reachable {st : State} (h : Reachable st) (t c out old : Nat) (isStore : Bool)
    (hop : (st.th t).op = .swapPay c out old isStore .start) (hnode : (st.th t).loc.node.isSome = true)
    (hq : ∀ m, (st.sh.nodes m).control = .idle) :
    ∃ k, k ≤ 25 * st.sh.nNodes + 4 ∧ ((solo st t k).th t).op = .swapPay c out old isStore .fin :=
  walk_bound_reachable h t c out old isStore hop hnode hq

/-- the same from any shared state whose list is a chain `L` of quiet nodes: `25 · |L| + 4` -/
theorem C09_walk_bound_from_start (st : State) (t c out old : Nat) (isStore : Bool) (L : List Nat)
    (hop : (st.th t).op = .swapPay c out old isStore .start) (hroad : Road st.sh st.sh.head L)
    (hnode : (st.th t).loc.node.isSome = true) :
    ∃ k, k ≤ 25 * L.length + 4 ∧ ((solo st t k).th t).op = .swapPay c out old isStore .fin :=
  walk_bound_from_start st t c out old isStore L hop hroad hnode

/-- **every walk ends alone — `swap`, `store`, `compare_and_swap`, `rcu`, `into_inner`, container
    drop**: in every reachable state a thread at the start of the debt walk of any of these
    operations, with every other thread frozen wherever it is and no reader inside its fallback
    window, reaches the end of the walk within `25 · nNodes + 4` of its own steps -/
theorem C09_every_walk_bound_reachable {st : State} (h : Reachable st) (t a : Nat)
    (hop : (st.th t).op.walkC? = some (a, .start)) (hnode : (st.th t).loc.node.isSome = true)
    (hq : ∀ m, (st.sh.nodes m).control = .idle) :
    ∃ k, k ≤ 25 * st.sh.nNodes + 4 ∧ ((solo st t k).th t).op.walkC? = some (a, .fin) :=
  walkC_bound_reachable h t a hop hnode hq

/-- non-vacuity: the walks the theorem is about -/
example : (OpSt.dropc 0 1 .start).walkC? = some (1, .start) ∧ (OpSt.cinto 0 0 1 .start).walkC? = some (1, .start) ∧
    (OpSt.swapPay 0 0 1 true .start).walkC? = some (1, .start) ∧
    (OpSt.cas 0 .null none 0 2 0 (.pay { ptr := 1, debt := none } .start)).walkC? = some (1, .start) :=
  ⟨rfl, rfl, rfl, rfl⟩

/-!
Not composed into the bound: a walk that meets a reader inside its fallback window (the walker then
helps: a nested load and a hand-over attempt — bounded too, but the helping loop goes round again
when the reader moves, `help_retry_means_interference`), and the retry loops of
`compare_and_swap` and `rcu` around their walk (each retry is caused by interference: above).  The harness checks the bound directly: from
intermediate states sampled by the scheduler, all threads but one are frozen and that one must
finish its operation within `60 + 40·(nodes+1)` steps (`solo*` families).
-/

end C09
