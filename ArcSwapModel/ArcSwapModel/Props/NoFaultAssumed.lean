import ArcSwapModel.Props.C03
import ArcSwapModel.Props.C04
import ArcSwapModel.Props.C05
import ArcSwapModel.Props.C06
import ArcSwapModel.Props.C10Live
import ArcSwapModel.Inv.FaultFree

/-!
# The global theorems of C03, C04, C05, C06 and C10 without the premise "no fault has been raised"

The theorems of `Props/C03 … C10Live` that speak about whole executions carry two premises: the
execution satisfies the ledger's assumptions (`EnvRun0`) and its end state has raised no fault.
`env_run_fault_free` (`Inv/FaultFree.lean`) proves the second from the first, so each of them holds
from the ledger's assumptions alone.  Stated here, one by one, with the same conclusions.
-/

namespace C03

/-- the pointer in a container denotes the object whose identity heads the container's history of
    writes — from the ledger's assumptions alone -/
theorem C03_cell_holds_latest_write_no_fault_assumed_partial (K N T : Nat) (hK : 0 < K) (cfg : M.Cfg)
    (progs : Nat → List (String × M.Op)) (sched : List (Nat × Bool))
    (he : M.EnvRun0 K N T (M.State.initial cfg progs) sched) (c p : Nat)
    (hc : (M.run (M.State.initial cfg progs) sched).sh.cells c = some p) :
    ∃ rest, (M.run (M.State.initial cfg progs) sched).sh.hist c =
      (M.run (M.State.initial cfg progs) sched).sh.idOf p :: rest :=
  C03_cell_holds_latest_write_partial K N T hK cfg progs sched he
    (M.env_run_fault_free K N T hK cfg progs sched he) c p hc

end C03

namespace C04
open M Consts

/-- the container holds the latest write — from the ledger's assumptions alone -/
theorem C04_container_holds_latest_write_no_fault_assumed_partial (K N T : Nat) (hK : 0 < K) (cfg : Cfg)
    (progs : Nat → List (String × Op)) (sched : List (Nat × Bool))
    (he : EnvRun0 K N T (State.initial cfg progs) sched) (c p : Nat)
    (hc : (run (State.initial cfg progs) sched).sh.cells c = some p) :
    ∃ rest, (run (State.initial cfg progs) sched).sh.hist c = (run (State.initial cfg progs) sched).sh.idOf p :: rest :=
  C04_container_holds_latest_write_partial K N T hK cfg progs sched he
    (env_run_fault_free K N T hK cfg progs sched he) c p hc

/-- `swap` takes out what its immediate predecessor put in — from the ledger's assumptions alone -/
theorem C04_swap_takes_out_predecessor_no_fault_assumed_partial (K N T : Nat) (hK : 0 < K) (cfg : Cfg)
    (progs : Nat → List (String × Op)) (sched : List (Nat × Bool))
    (he : EnvRun0 K N T (State.initial cfg progs) sched)
    (t : Nat) (b : Bool) (c a out old : Nat) (isStore : Bool)
    (hop : ((run (State.initial cfg progs) sched).th t).op = .swapSw c a out isStore)
    (hc : (run (State.initial cfg progs) sched).sh.cells c = some old) :
    ∃ rest, (run (State.initial cfg progs) sched).sh.hist c = (run (State.initial cfg progs) sched).sh.idOf old :: rest ∧
      (microStep (run (State.initial cfg progs) sched) t b).1.sh.hist c =
        (run (State.initial cfg progs) sched).sh.idOf a :: (run (State.initial cfg progs) sched).sh.idOf old :: rest ∧
      ((microStep (run (State.initial cfg progs) sched) t b).1.th t).op = .swapPay c out old isStore .start :=
  C04_swap_takes_out_predecessor_partial K N T hK cfg progs sched he
    (env_run_fault_free K N T hK cfg progs sched he) t b c a out old isStore hop hc

end C04

namespace C05
open M Consts

/-- `current` given as a handle denotes a live, counted object in every state of the call -/
theorem C05_current_handle_alive_no_fault_assumed_partial (K N T : Nat) (hK : 0 < K) (cfg : Cfg)
    (progs : Nat → List (String × Op)) (sched : List (Nat × Bool))
    (he : EnvRun0 K N T (State.initial cfg progs) sched)
    (t c hc : Nat) (keep : Option Guard) (curPtr new g : Nat) (cp : CP) (hp : curPtr ≠ 0)
    (hop : ((run (State.initial cfg progs) sched).th t).op = .cas c (.h hc) keep curPtr new g cp) :
    1 ≤ ((run (State.initial cfg progs) sched).sh.heap curPtr).cnt ∧
      ((run (State.initial cfg progs) sched).sh.heap curPtr).live = true :=
  C05_current_handle_alive_during_call_partial K N T hK cfg progs sched he
    (env_run_fault_free K N T hK cfg progs sched he) t c hc keep curPtr new g cp hp hop

/-- the same for `current` given as a guard -/
theorem C05_current_guard_alive_no_fault_assumed_partial (K N T : Nat) (hK : 0 < K) (cfg : Cfg)
    (progs : Nat → List (String × Op)) (sched : List (Nat × Bool))
    (he : EnvRun0 K N T (State.initial cfg progs) sched)
    (t c gc : Nat) (cg : Guard) (new g : Nat) (cp : CP) (hp : cg.ptr ≠ 0)
    (hop : ((run (State.initial cfg progs) sched).th t).op = .cas c (.g gc) (some cg) cg.ptr new g cp) :
    1 ≤ ((run (State.initial cfg progs) sched).sh.heap cg.ptr).cnt ∧
      ((run (State.initial cfg progs) sched).sh.heap cg.ptr).live = true :=
  C05_current_guard_alive_during_call_partial K N T hK cfg progs sched he
    (env_run_fault_free K N T hK cfg progs sched he) t c gc cg new g cp hp hop

end C05

namespace C06
open M Consts

/-- the closure of `rcu` is handed a live value — from the ledger's assumptions alone -/
theorem C06_closure_sees_live_value_no_fault_assumed_partial (K N T : Nat) (hK : 0 < K) (cfg : Cfg)
    (progs : Nat → List (String × Op)) (sched : List (Nat × Bool))
    (he : EnvRun0 K N T (State.initial cfg progs) sched)
    (t : Nat) (ht : t < T) (c out tries : Nat) (cur : Guard) (hp : cur.ptr ≠ 0)
    (hop : ((run (State.initial cfg progs) sched).th t).op = .rcu c out tries (.attempt cur)) :
    ((run (State.initial cfg progs) sched).sh.heap cur.ptr).live = true :=
  C06_closure_sees_live_value_partial K N T hK cfg progs sched he
    (env_run_fault_free K N T hK cfg progs sched he) t ht c out tries cur hp hop

/-- `rcu`'s exchange adds exactly one to what it replaces — from the ledger's assumptions alone -/
theorem C06_exchange_adds_one_no_fault_assumed_partial (K N T : Nat) (hK : 0 < K) (cfg : Cfg)
    (progs : Nat → List (String × Op)) (sched : List (Nat × Bool))
    (he : EnvRun0 K N T (State.initial cfg progs) sched)
    (t c out tries : Nat) (cur : Guard) (a : Nat) (old : Guard)
    (hop : ((run (State.initial cfg progs) sched).th t).op = .rcu c out tries (.cas cur a (.cx old)))
    (hq : (run (State.initial cfg progs) sched).sh.cells c = some cur.ptr) :
    (microStep (run (State.initial cfg progs) sched) t false).1.sh.cells c = some a ∧
      valOf (microStep (run (State.initial cfg progs) sched) t false).1.sh a =
        valOf (run (State.initial cfg progs) sched).sh cur.ptr + 1 :=
  C06_exchange_adds_one_partial K N T hK cfg progs sched he
    (env_run_fault_free K N T hK cfg progs sched he) t c out tries cur a old hop hq

end C06

namespace C10
open M Consts

/-- a guard stays valid whatever happens to the container and to the other threads — from the
    ledger's assumptions alone -/
theorem C10_guard_value_outlives_everything_no_fault_assumed_partial (K N T : Nat) (hK : 0 < K) (cfg : Cfg)
    (progs : Nat → List (String × Op)) (sched : List (Nat × Bool))
    (he : EnvRun0 K N T (State.initial cfg progs) sched)
    (g : Nat) (hg : g < N) (gd : Guard) (hreg : (run (State.initial cfg progs) sched).sh.greg g = some gd)
    (hp : gd.ptr ≠ 0) :
    1 ≤ ((run (State.initial cfg progs) sched).sh.heap gd.ptr).cnt ∧
      ((run (State.initial cfg progs) sched).sh.heap gd.ptr).live = true :=
  C10_guard_value_outlives_everything_partial K N T hK cfg progs sched he
    (env_run_fault_free K N T hK cfg progs sched he) g hg gd hreg hp

/-- dereferencing it raises no fault, whichever thread does it -/
theorem C10_guard_deref_anywhere_no_fault_assumed_partial (K N T : Nat) (hK : 0 < K) (cfg : Cfg)
    (progs : Nat → List (String × Op)) (sched : List (Nat × Bool))
    (he : EnvRun0 K N T (State.initial cfg progs) sched)
    (t g : Nat) (hg : g < N) (b : Bool) (txt : String) (rest : List (String × Op))
    (hidle : ((run (State.initial cfg progs) sched).th t).op = .idle)
    (hprog : ((run (State.initial cfg progs) sched).th t).prog = (txt, .gderef g) :: rest) :
    (microStep (run (State.initial cfg progs) sched) t b).1.sh.fault = none :=
  C10_guard_deref_anywhere_no_fault_partial K N T hK cfg progs sched he
    (env_run_fault_free K N T hK cfg progs sched he) t g hg b txt rest hidle hprog

end C10
