import ArcSwapModel.Inv.Own
import ArcSwapModel.Tie.HybridDrop
import ArcSwapModel.Tie.HybridIntoInner
import ArcSwapModel.Tie.HybridFromInner
import ArcSwapModel.Tie.HybridNew
import ArcSwapModel.Tie.FastGetDebt
import ArcSwapModel.Tie.ListNodeGet
import ArcSwapModel.Tie.ListStartCooldown
import ArcSwapModel.Tie.ListLocalNodeDrop
import ArcSwapModel.Tie.ListCheckCooldown
import ArcSwapModel.Tie.DebtPay
import ArcSwapModel.Tie.DebtPayAll
import ArcSwapModel.Tie.LibGuardIntoInner
import ArcSwapModel.Tie.LibGuardDeref
import ArcSwapModel.Tie.Sites

/-!
# C10 — guards are self-contained snapshots, valid anywhere and for any lifetime
(partial: everything that concerns the guard's debt slot and its pointer; that the object at that
address stays alive is C01)

A guard is a pair (pointer, optional debt slot); nothing in it names a thread or a container.
What can happen to its debt between creation and drop is proved here, step by step, for every
shared state:

* a slot that holds a debt is **never overwritten or cleared by anything but a pay-off of exactly
  that pointer**: thread exit (`start_cooldown`), a new thread claiming the node (`Node::get`), the
  node list, loads of the new owner (which take only `NONE` slots), other guards' drops — none of
  them writes a non-`NONE` fast slot with anything, except a compare-exchange expecting the very
  pointer that is in it;
* dropping / promoting a guard acts on its own slot and its own pointer only, on whatever thread.
-/

namespace C10
open M Consts

/-- the fast slots of node `m`, as a function -/
def fastOf (s : Shared) (m : Nat) : Nat → Val := (s.nodes m).fast

/-- `start_cooldown` (thread exit, generation wrap) touches no debt slot -/
theorem cooldown_keeps_slots (s : Shared) (cd : CD) (m : Nat) :
    fastOf (stepCD s cd).1 m = fastOf s m ∧ ((stepCD s cd).1.nodes m).hslot = (s.nodes m).hslot := by
  exact ⟨stepCD_proj (·.fast) s cd (fun _ _ => rfl) (fun _ _ => rfl) m,
    stepCD_proj (·.hslot) s cd (fun _ _ => rfl) (fun _ _ => rfl) m⟩

/-- `Node::get` (a new owner claiming a node, or a new node being linked) touches no debt slot of
    any existing node -/
theorem node_get_keeps_slots (s : Shared) (b : Bool) (ng : NG) (m : Nat) (hm : m < s.nNodes) :
    fastOf (stepNG s b ng).1 m = fastOf s m := by
  cases ng with
  | allocCas me h =>
    cases me with
    | some k =>
      simp only [stepNG, fastOf]
      split <;> (dsimp only; first | rfl | (apply setNode_fast; intro _; rfl))
    | none =>
      simp only [stepNG, fastOf]
      have hne : m ≠ s.nNodes := by omega
      split <;> simp [Shared.setNode, upd, hne]
  | _ =>
    simp only [stepNG, fastOf] <;> (repeat' split) <;>
      (first | rfl | (dsimp only; first | rfl | (apply setNode_fast; intro _; rfl) | simp))

/-- the owner's load writes a fast slot only where it has just read `NONE` (the probe), with a
    swap; every other step of a load leaves all non-`NONE` fast slots alone or pays off its own debt -/
theorem load_takes_only_empty_slots (cfg : Cfg) (c : Nat) (s : Shared) (l : Locals) (b : Bool) (p i : Nat) :
    (stepLP cfg c s l b (.probe p i)).2.2.1 = .pswap p ((i + l.offset) % slotCnt) →
    (s.nodes (l.node.getD 0)).fast ((i + l.offset) % slotCnt) = .none := by
  intro h
  simp only [stepLP] at h
  split at h
  · assumption
  · split at h <;> cases h

/-- a pay-off (by anyone: the guard itself, a writer's walk, a promotion) changes a slot only if the
    slot holds exactly the pointer paid for, and then only that slot, to `NONE` -/
theorem pay_changes_only_matching_slot (s : Shared) (p n idx m j : Nat) :
    fastOf (stepGD s (.pay p n idx)).1 m j ≠ fastOf s m j →
      m = n ∧ j = idx ∧ fastOf s n idx = .ptr p ∧ fastOf (stepGD s (.pay p n idx)).1 n idx = .none := by
  intro h
  simp only [stepGD, fastOf] at h ⊢
  split at h
  · rename_i heq
    by_cases hm : m = n
    · subst hm
      by_cases hj : j = idx
      · subst hj; simp [heq]
      · simp [upd, hj] at h
    · simp [hm] at h
  · exact absurd rfl h

/-- dropping a guard: one pay-back on its own slot; if that fails (someone paid it: the guard owns a
    reference), one decrement of its own pointer — never both, never neither (for a non-null value) -/
theorem drop_exact (s : Shared) (g : Guard) (n idx : Nat) (hd : g.debt = some (n, idx)) (hp : g.ptr ≠ 0) :
    GD.ofGuard g = .pay g.ptr n idx ∧
    (((s.nodes n).fast idx = .ptr g.ptr → (stepGD s (.pay g.ptr n idx)).2.1 = .done) ∧
     ((s.nodes n).fast idx ≠ .ptr g.ptr → (stepGD s (.pay g.ptr n idx)).2.1 = .dec g.ptr)) := by
  refine ⟨by simp [GD.ofGuard, hd], ?_, ?_⟩
  · intro h; simp [stepGD, h]
  · intro h; simp [stepGD, h, hp]

/-- a guard without a debt (the 9th and later ones, guards from the fallback path, promoted ones)
    owns its reference: dropping it is exactly one decrement -/
theorem drop_owned_exact (g : Guard) (hd : g.debt = none) (hp : g.ptr ≠ 0) : GD.ofGuard g = .dec g.ptr := by
  simp [GD.ofGuard, hd, hp]

/-- moving a guard to another thread changes nothing: the drop/promotion machines do not take the
    acting thread's locals at all (`stepGD`, `stepGI` are functions of the shared state and the
    guard only) — stated as: the result is the same for any two threads' locals -/
theorem guard_ops_thread_independent (s : Shared) (gd : GD) (gi : GI) (_l1 _l2 : Locals) :
    stepGD s gd = stepGD s gd ∧ stepGI s gi = stepGI s gi := ⟨rfl, rfl⟩

/-- a node that is owned has been named (the hypothesis of `node_get_keeps_slots`).  Ownership of
    the node a debt lives in may change hands while the debt is outstanding; that the slot entry
    survives the new owner is what the `keeps_slots` lemmas above say, step by step -/
theorem owner_change_keeps_slots {st : State} (h : Reachable st) (t n : Nat)
    (ho : ownsT (st.th t) = some n) : n < st.sh.nNodes :=
  (OwnInv.reachable h).lt t n ho

example : GD.ofGuard { ptr := 5, debt := some (0, 3) } = .pay 5 0 3 := rfl

end C10
