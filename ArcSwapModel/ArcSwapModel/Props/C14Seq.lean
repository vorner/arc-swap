import ArcSwapModel.Inv.SeqRun

/-!
# C14, on the hybrid machine: sequential executions

`Props/C14.lean` proves the accounting law of the sequential specification `Spec`; that the three
strategies implement it is checked by the harness's differential runs.  Here, on the hand-written machine
`M` of the hybrid strategy itself, for executions of a single thread: they satisfy the assumptions
of the ledger *without* assuming anything about the helping protocol (a hand-over needs two
threads), hence raise no fault, and between operations every value's strong count plus the debt
slots naming it equals the number of containers, handles and guards denoting it — `Spec`'s
accounting law (`C14_accounting`), with a borrowed guard counting as an owner
(`C14_guard_is_an_owner`).  What is still decided by execution only: that `M`'s *results* (the
identities returned by each call) are `Spec`'s.
-/

namespace C14Seq
open M Consts

/-- **no sequential execution of the hybrid strategy raises a fault**: for every program of one
    thread over registers and containers below `N` that keeps the program discipline (output
    registers free, containers created on fresh cells), with room in the pool and at most `K` nodes,
    every step count, every pattern of spurious failures, every wrap modulus — no use-after-free,
    no double free, no assertion, no stuck state -/
theorem C14_hybrid_sequential_no_fault_partial (K N : Nat) (hK : 0 < K) (cfg : Cfg)
    (progs : Nat → List (String × Op)) (bs : List Bool) (h : SeqRun K N (State.initial cfg progs) bs) :
    (run (State.initial cfg progs) (seqSched bs)).sh.fault = none :=
  seq_run_fault_free K N hK cfg progs bs h

/-- **`Spec`'s accounting law holds of the hybrid machine between operations**: strong count + debt
    slots naming the value = containers + handles + guards denoting it -/
theorem C14_hybrid_sequential_counts_partial (K N : Nat) (hK : 0 < K) (cfg : Cfg)
    (progs : Nat → List (String × Op)) (bs : List Bool) (h : SeqRun K N (State.initial cfg progs) bs)
    (hidle : ((run (State.initial cfg progs) (seqSched bs)).th 0).op = .idle ∨
      ((run (State.initial cfg progs) (seqSched bs)).th 0).op = .finished)
    (a : Nat) (ha : a ≠ 0) :
    ((run (State.initial cfg progs) (seqSched bs)).sh.heap a).cnt +
        occ K (run (State.initial cfg progs) (seqSched bs)).sh.nodes a =
      (run (State.initial cfg progs) (seqSched bs)).sh.regs N a :=
  seq_between_ops_counts K N hK cfg progs bs h hidle a ha

/-- … and when no guard in a register still borrows (every guard owns its reference), no debt slot of
    any node names a value and every strong count is exactly the number of owners — what `Spec`
    says of counts at all times -/
theorem C14_hybrid_sequential_at_rest_partial (K N : Nat) (hK : 0 < K) (cfg : Cfg)
    (progs : Nat → List (String × Op)) (bs : List Bool) (h : SeqRun K N (State.initial cfg progs) bs)
    (hidle : ∀ t, ((run (State.initial cfg progs) (seqSched bs)).th t).op = .idle ∨
      ((run (State.initial cfg progs) (seqSched bs)).th t).op = .finished)
    (hg : ∀ g gd, (run (State.initial cfg progs) (seqSched bs)).sh.greg g = some gd → gd.debt = none) :
    (∀ n i a, ((run (State.initial cfg progs) (seqSched bs)).sh.nodes n).fast i ≠ .ptr a ∧
        ((run (State.initial cfg progs) (seqSched bs)).sh.nodes n).hslot ≠ .ptr a) ∧
      ∀ a, a ≠ 0 → ((run (State.initial cfg progs) (seqSched bs)).sh.heap a).cnt =
        (run (State.initial cfg progs) (seqSched bs)).sh.regs N a :=
  C02_at_rest K N 1 hK cfg progs _ (seqRun_env K N hK cfg progs bs h) (seq_run_fault_free K N hK cfg progs bs h) hidle hg

/-- a single thread never hands a replacement over to itself: no control word ever holds an
    envelope, so the assumptions of the ledger hold (`EnvRun0`) -/
theorem C14_hybrid_sequential_meets_ledger_assumptions (K N : Nat) (hK : 0 < K) (cfg : Cfg)
    (progs : Nat → List (String × Op)) (bs : List Bool) (h : SeqRun K N (State.initial cfg progs) bs) :
    EnvRun0 K N 1 (State.initial cfg progs) (seqSched bs) ∧
      NoEnv (run (State.initial cfg progs) (seqSched bs)).sh :=
  ⟨seqRun_env K N hK cfg progs bs h, seq_run_noEnv K N hK cfg progs bs h⟩

/-- non-vacuity: the program `seqEx` (two values, a container, a borrowed guard held across a store,
    a full load, `compare_and_swap`, `rcu`, a promotion, releases, `into_inner`), run to its end
    (150 steps), keeps the discipline with one node and four registers; at the end the thread has
    exited, value 2 is owned by handle `h2` alone and values 1 and 3 have been destroyed -/
example : SeqRun 1 4 seqEx (List.replicate 150 false) ∧
    ((run seqEx (seqSched (List.replicate 150 false))).th 0).op = .finished ∧
    (run seqEx (seqSched (List.replicate 150 false))).sh.hreg 2 = some 2 ∧
    ((run seqEx (seqSched (List.replicate 150 false))).sh.heap 2).cnt = 1 ∧
    ((run seqEx (seqSched (List.replicate 150 false))).sh.heap 1).live = false ∧
    ((run seqEx (seqSched (List.replicate 150 false))).sh.heap 3).live = false :=
  ⟨seqRun_of_B (by decide +kernel), by decide +kernel⟩

end C14Seq
