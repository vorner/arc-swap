import ArcSwapModel.Inv.Own
import ArcSwapModel.Inv.Probe
import ArcSwapModel.Inv.Check
import ArcSwapModel.Props.C03
import ArcSwapModel.Tie.ListNewHelping
import ArcSwapModel.Tie.ListNewFast
import ArcSwapModel.Tie.ListConfirmHelping
import ArcSwapModel.Tie.ListHelp
import ArcSwapModel.Tie.ListWith
import ArcSwapModel.Tie.ListStartCooldown
import ArcSwapModel.Tie.ListNodeGet
import ArcSwapModel.Tie.HelpingGetDebt
import ArcSwapModel.Tie.HelpingWrapsNext
import ArcSwapModel.Tie.HelpingHelp
import ArcSwapModel.Tie.HelpingConfirm
import ArcSwapModel.Tie.HybridFallback
import ArcSwapModel.Tie.HybridLoad
import ArcSwapModel.Tie.Sites
import ArcSwapModel.Inv.LpBack

/-!
# C13 — operations are total, however long the history
(partial: no assertion and no `expect` of the crate fires, in any execution, the wrap included; what is
left is a stuck state of the model at the receiving end of a hand-over; see the end)

For every wrap modulus `W` (the crate's is `2^64`; `Cfg.W` is a parameter of every theorem), i.e.
for histories of any length, with or without writers helping at the wrap.
-/

namespace C13
open M Consts

/-- **`expect("LocalNode::with ensures it is set")` never fires inside a load**, wrap included:
    once `LocalNode::with` has set the thread's node it stays set through the whole load, also when
    the load moves to another node because the transaction counter wraps (the defect D1 was exactly
    a `None` here).  For any shared state before each step (any concurrent behaviour). -/
theorem C13_node_stays_set (cfg : Cfg) (c : Nat) (s : Shared) (l : Locals) (b : Bool) (lp : LP)
    (h : l.node.isSome = true) : (stepLP cfg c s l b lp).2.1.node.isSome = true :=
  C03.node_some_step cfg c s l b lp h

/-- with the node set, the three `expect` sites on the read path raise nothing -/
theorem C13_no_expect_panic (cfg : Cfg) (c : Nat) (s : Shared) (l : Locals) (b : Bool) (lp : LP)
    (h : l.node.isSome = true) (hf : s.fault = none) :
    (stepLP cfg c s l b lp).1.fault ≠ some expectPanic := by
  obtain ⟨n, hn⟩ := Option.isSome_iff_exists.mp h
  have ok : s.fault ≠ some expectPanic := by rw [hf]; exact fun e => by cases e
  -- raising any other fault does not raise this one
  have nf : ∀ (x : Shared) (f : Fault), x.fault = s.fault → f ≠ expectPanic →
      (x.setFault f).fault ≠ some expectPanic := by
    intro x f hx hne; rw [setFault_fault_of_none _ _ (hx.trans hf)]; exact fun e => hne (Option.some.inj e)
  have ng_ok : ∀ ng, (stepNG s b ng).1.fault ≠ some expectPanic := by
    intro ng
    rcases stepNG_fault s b ng with e | ⟨e, _⟩ <;> rw [e]
    · exact ok
    · exact nf s _ rfl (fun e => by cases e)
  cases lp with
  | get ng => rw [stepLP_get]; exact ng_ok ng
  | reget ng => rw [stepLP_reget]; exact ng_ok ng
  | cool cd => rw [stepLP_cool]; rcases stepCD_fault s cd hf with e | e <;> rw [e] <;> decide
  | _ =>
    simp only [stepLP, hn, dbgInUse, incObj, decObj] <;> (repeat' split) <;>
      first | exact ok | exact nf _ _ rfl (fun e => by cases e)

/-- **`assert_eq!(NODE_USED, self.in_use.swap(NODE_COOLDOWN, ..))` in `start_cooldown` never fires**,
    neither at thread exit nor at the generation wrap (also when the wrap happens in the load a
    writer performs to produce a replacement): in every reachable state, a thread that is about to
    execute that swap on node `n` owns `n`, and an owned node is `NODE_USED`. -/
theorem C13_cooldown_assert {st : State} (h : Reachable st) (t n : Nat)
    (hcd : (st.th t).op.cd? = some (.swap n)) : (st.sh.nodes n).inUse = nodeUsed :=
  (OwnInv.reachable h).used t n (owns_of_cooldown (st.th t) n hcd)

/-- … so that step raises no panic -/
theorem C13_cooldown_step_no_panic (s : Shared) (n : Nat) (h : (s.nodes n).inUse = nodeUsed) (hf : s.fault = none) :
    (stepCD s (.swap n)).1.fault = none := by
  simp [stepCD, h, hf]

/-- `debug_assert_eq!(node.in_use.load(Relaxed), NODE_USED)` (four sites in `list.rs`) holds whenever
    the thread is past `LocalNode::with` and not retiring its node: the node it uses is owned -/
theorem C13_debug_in_use {st : State} (h : Reachable st) (t n : Nat) (ho : ownsT (st.th t) = some n) :
    dbgInUse st.sh n "any" = st.sh := by
  simp [dbgInUse, (OwnInv.reachable h).used t n ho]

/-- `assert_eq!(my_space as usize & TAG_MASK, 0)` in `help`: `Handover` is aligned so that its
    address has the tag bits free; `unreachable!("Invalid control value")`: the three kinds of
    control content are told apart by distinct tags and a generation never carries tag bits (the
    counter moves in steps that are multiples of the tag mask + 1) — obligations on the constants
    of the current source. -/
theorem C13_tags : Consts.handoverAlign &&& Consts.tagMask = 0 ∧ Consts.genStep &&& Consts.tagMask = 0 ∧
    Consts.genTag ≠ Consts.replTag ∧ Consts.genTag ≠ 0 ∧ Consts.replTag ≠ 0 ∧ Consts.idle = 0 := by
  have := Consts.tags_ok
  exact ⟨this.2.2.2.2.2.2.2.2.2.1, this.2.2.2.2.2.2.1, this.2.1, this.2.2.1, this.2.2.2.1, this.1⟩

/-! ## The debug assertions on the control word (from the control-word invariant, `Inv/Ctl.lean`) -/

/-- `debug_assert_eq!(prev, IDLE, "Left control in wrong state")` in `helping::get_debt` and
    `debug_assert_eq!(IDLE, self.control.load(..))` at the top of `help`: in every reachable state
    without a fault, the control word of the node a thread owns is `IDLE` whenever that thread is
    not inside its own fallback window — in particular right before it publishes a new generation,
    and while it walks other nodes as a writer. -/
theorem C13_own_control_idle {st : State} (h : Reachable st) (hf : st.sh.fault = none) (t n : Nat)
    (hown : ownsT (st.th t) = some n) (hw : (st.th t).op.win = none) : (st.sh.nodes n).control = .idle :=
  control_idle_outside (CtlInv.reachable h hf) (OwnInv.reachable h) t n hown hw

/-- the same, at the very step: a thread about to swap its generation in (`f2`) finds `IDLE`, so
    that step raises no debug assertion -/
theorem C13_get_debt_assert {st : State} (h : Reachable st) (hf : st.sh.fault = none) (t n g : Nat)
    (hlp : (st.th t).op.lp? = some (.f2 g)) (hn : (st.th t).loc.node = some n) :
    (st.sh.nodes n).control = .idle := by
  refine C13_own_control_idle h hf t n ?_ ?_
  · rw [ownsT_of_lp _ _ hlp]; exact hn
  · rw [OpSt.win_lp, hlp]; rfl

/-- `confirm`: "control is neither our generation nor a replacement" never fires: a thread about to
    swap `IDLE` back (`f5`) finds its own generation or an envelope -/
theorem C13_confirm_assert {st : State} (h : Reachable st) (hf : st.sh.fault = none) (t n g cand : Nat)
    (hlp : (st.th t).op.lp? = some (.f5 g cand)) (hn : (st.th t).loc.node = some n) :
    (st.sh.nodes n).control = .gen g ∨ ∃ j, (st.sh.nodes n).control = .env j :=
  (CtlInv.reachable h hf).inside t g n (by rw [OpSt.win_lp, hlp]; rfl) hn

/-- a control word that is not idle always belongs to the thread inside its window on that node -/
theorem C13_control_owner {st : State} (h : Reachable st) (hf : st.sh.fault = none) (n : Nat)
    (hne : (st.sh.nodes n).control ≠ .idle) :
    ∃ t g, (st.th t).loc.node = some n ∧ (st.th t).op.win = some g ∧
      ((st.sh.nodes n).control = .gen g ∨ ∃ j, (st.sh.nodes n).control = .env j) :=
  (CtlInv.reachable h hf).owner n hne

/-- `confirm`: "slot not NONE" — the value part: a thread about to publish into the helping slot of
    its node (`f4`) finds no value there (a holder would be another thread owning the same node) -/
theorem C13_confirm_slot_names_nothing {st : State} (h : Reachable st) (hf : st.sh.fault = none) (t n g cand : Nat)
    (hlp : (st.th t).op.lp? = some (.f4 g cand)) (hn : (st.th t).loc.node = some n) (a : Nat) :
    (st.sh.nodes n).hslot ≠ .ptr a := by
  refine hslot_free_unless_held (HHoldInv.reachable h hf) (OwnInv.reachable h) t n ?_ a (fun hh => ?_)
  · rw [ownsT_of_lp _ _ hlp]; exact hn
  · obtain ⟨ld, h1, h2⟩ := OpSt.hholds_lp hh
    rw [hlp] at h1; cases h1; exact h2

/-- … and since a slot holds `NONE` or a value, the slot is `NONE`: `confirm`'s
    `debug_assert_eq!(prev, NONE)` holds -/
theorem C13_confirm_slot_assert {st : State} (h : Reachable st) (hf : st.sh.fault = none) (t n g cand : Nat)
    (hlp : (st.th t).op.lp? = some (.f4 g cand)) (hn : (st.th t).loc.node = some n) :
    (st.sh.nodes n).hslot = .none := by
  cases hv : (st.sh.nodes n).hslot with
  | none => rfl
  | ptr a => exact absurd hv (C13_confirm_slot_names_nothing h hf t n g cand hlp hn a)

/-- `fast::get_debt`: "slot not NONE" never fires — a thread about to swap its debt into slot `i`
    of its node (the slot its probe found empty) still finds it empty: nobody but the owner of a
    node fills its slots.  Every reachable state, any nesting of the load (inside a writer's help,
    a `compare_and_swap`, an `rcu`). -/
theorem C13_get_debt_slot_assert {st : State} (h : Reachable st) (t p i n : Nat)
    (hlp : (st.th t).op.lp? = some (.pswap p i)) (hn : (st.th t).loc.node = some n) :
    (st.sh.nodes n).fast i = .none :=
  ProbeInv.reachable h t p i n hlp hn

/-- the step itself, for a plain `load`: no fault is raised by the swap -/
theorem C13_get_debt_swap_no_fault {st : State} (h : Reachable st) (t c g p i : Nat) (b : Bool)
    (hop : (st.th t).op = .load c g (.pswap p i)) (hf : st.sh.fault = none) :
    (microStep st t b).1.sh.fault = none :=
  pswap_no_fault h t c g p i b hop hf

/-- `check_cooldown`: "Somebody took a node while it was being checked" never fires — the node a
    `Node::get` holds for its look at `active_writers` is in the checking state when the exchange at
    the end of the check finds it: nobody else touches a node in that state (`CheckInv`,
    `Inv/Check.lean`; the state was introduced by the repair of D12). -/
theorem C13_check_cooldown_assert {st : State} (h : Reachable st) (t n : Nat)
    (hc : (st.th t).op.chk = some n) : (st.sh.nodes n).inUse = Consts.nodeChecking :=
  (CheckInv.reachable h).held t n hc

/-- **an operation never finds its container gone**: along every execution of threads that use
    registers and cells below `N` and create containers on fresh cells only, the container an
    operation in progress works on (a load, a store, a swap, a compare-and-swap, an rcu) exists and
    is not being destroyed — the stuck states "load of / cas on a dropped container" of the model
    are not reachable.  (In Rust: `into_inner` and `Drop` take the container by value; in the
    model: the `busy` discipline, proved as an invariant in `Inv/Busy3.lean`.) -/
theorem C13_operated_container_exists (N T : Nat) (cfg : Cfg) (progs : Nat → List (String × Op))
    (sched : List (Nat × Bool)) (ht : TameRun2 N T (State.initial cfg progs) sched) (t c : Nat)
    (hcell : ((run (State.initial cfg progs) sched).th t).op.cell? = some c)
    (hcons : ((run (State.initial cfg progs) sched).th t).op.cons = false) :
    (run (State.initial cfg progs) sched).sh.cells c ≠ none ∧ c < N ∧
      (run (State.initial cfg progs) sched).ctaken c = false := by
  obtain ⟨L, hL⟩ := (HazAllD.initial N T cfg progs).run sched ht
  exact hL.busy.free t c hcell hcons

/-- … and a container being destroyed is worked on by its destroyer alone, and keeps its value
    until the destroyer's walk is over -/
theorem C13_destroyed_container_exclusive (N T : Nat) (cfg : Cfg) (progs : Nat → List (String × Op))
    (sched : List (Nat × Bool)) (ht : TameRun2 N T (State.initial cfg progs) sched) (t u c : Nat)
    (h1 : ((run (State.initial cfg progs) sched).th t).op.cons = true)
    (h2 : ((run (State.initial cfg progs) sched).th t).op.cell? = some c)
    (h3 : ((run (State.initial cfg progs) sched).th u).op.cell? = some c) : u = t := by
  obtain ⟨L, hL⟩ := (HazAllD.initial N T cfg progs).run sched ht
  cases hcb : ((run (State.initial cfg progs) sched).th u).op.cons with
  | true => exact hL.busy.uniq u t c hcb h1 h3 h2
  | false =>
    have := (hL.busy.free u c h3 hcb).2.2
    rw [hL.busy.taken t c h1 h2] at this; cases this

/-- `help`: "Refusing to help myself" never fires — in every reachable fault-free state a writer
    that is in the helping branch of `Slots::help` (it has seen a generation in the control word of
    the node it is at) is at a node that is not its own: at the entry of a help call the helper's
    node is the thread's node, and outside a load of its own the control word of the node a thread
    owns is idle (`SelfInv`, `Inv/SelfHelp.lean`, from `CtlInv` and node exclusivity). -/
theorem C13_refusing_to_help_myself_assert {st : State} (h : Reachable st) (hf : st.sh.fault = none) (t a : Nat)
    (hh : HL) (hw : (st.th t).op.walkC? = some (a, .h2 hh)) : hh.own ≠ hh.who :=
  help_not_self h hf t a hh hw

/-- **C13, the panics: no assertion of the crate fires and no `expect` panics — in any execution.**
    In every reachable state (any number of threads, any programs, any schedule, any spurious
    failures, any wrap modulus of the transaction counter) the fault flag of the machine, if it is
    set at all, is a use-after-free, a double free or a stuck state of the model: never one of the
    crate's `debug_assert!`s, `assert!`s or `expect`s (`Fault.isAssert`).  All of them, at once: the
    five `expect("LocalNode::with ensures it is set")`, the four in-use debug assertions,
    `assert_eq!(NODE_USED, …)` of `start_cooldown`, the assertion at the end of `check_cooldown`,
    "slot not NONE" of both `get_debt`s and of `confirm`, "Left control in wrong state", "own
    control not IDLE", "control is neither our generation nor a replacement", "Refusing to help
    myself".  No hypothesis: the induction goes over the execution, and in a state that has raised
    no fault so far the invariants provide what each assertion checks (`pre_reachable`). -/
theorem C13_no_assertion_ever_fires {st : State} (h : Reachable st) (f : Fault) (hf : st.sh.fault = some f) :
    f.isAssert = false :=
  never_an_assertion h f hf

/-- the step form: from a reachable state that has raised no fault, no step of any thread raises an
    assertion or a panic -/
theorem C13_step_raises_no_assertion {st : State} (h : Reachable st) (hf : st.sh.fault = none) (t : Nat) (b : Bool)
    (f : Fault) (hf' : (microStep st t b).1.sh.fault = some f) : f.isAssert = false :=
  no_assertion_fires h hf t b f hf'

/-- what counts as an assertion -/
example : (Fault.debugAssert "x").isAssert = true ∧ expectPanic.isAssert = true ∧ chkAssert.isAssert = true ∧
    (Fault.uaf "inc" 1).isAssert = false ∧ (Fault.stuck "x").isAssert = false := ⟨rfl, rfl, rfl, rfl, rfl⟩

/-- **without a successful hand-over no load is at its receiving end**: along every execution that
    satisfies the ledger's assumptions (in particular: no control word ever holds an envelope), no
    thread is ever in the states that take a replacement out of an envelope — so the stuck state
    "envelope holds NONE" of the model is not reached there, and every load returns by one of the
    direct paths (`C03_load_window_partial` applies to all of them) -/
theorem C13_no_receiving_end_without_handover (K N T : Nat) (cfg : Cfg) (progs : Nat → List (String × Op))
    (sched : List (Nat × Bool)) (he : EnvRun0 K N T (State.initial cfg progs) sched) (t : Nat) (lp : LP)
    (hlp : ((run (State.initial cfg progs) sched).th t).op.lp? = some lp) : lp.isFr = false :=
  noFr_of_env K N T cfg progs sched he t lp hlp

/-!
Not proved: `envelope holds NONE` in executions *with* a hand-over (a stuck state of the model: the
envelope a helped reader is pointed to holds a value — needs the envelope invariant of the
hand-over).
No hang: reads are
bounded (C08); writers: C09.  The harness runs every execution with debug assertions on and
`catch_unwind` around each operation; the wrap is reached by presetting the counter (`wrap` family
and the two D1 scenarios in the corpus).
-/

example : (State.initial {} (fun _ => [])).sh.fault = none := rfl

end C13
