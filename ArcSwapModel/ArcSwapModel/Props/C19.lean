import ArcSwapModel.AutoTraits

/-!
# C19 — thread-safety markers follow the pointee

For every public wrapper, every supported pointer kind, every `Send`/`Sync` combination of the
pointee and every strategy (780 instantiations), over the struct table of the source
(`AutoTraits.Golden.table`, proved equal to what the current source gives by `table_tie`).
The quantifier over all pointee types is reduced to the two flags by parametricity of auto traits
(an assumption about rustc, validated per table cell against rustc itself by the correspondence).
-/

namespace C19
open AutoTraits

/-- (wrapper is Send, wrapper is Sync, stored pointer is Send, stored pointer is Sync) -/
def verdict (c : Case) : Bool × Bool × Bool × Bool :=
  (isSend c.ty, isSync c.ty, isSend c.kind, isSync c.kind)

/-- the whole table, evaluated once by the kernel -/
def verdicts : List (Case × (Bool × Bool × Bool × Bool)) := cases.map fun c => (c, verdict c)

/-- a wrapper is `Send` (`Sync`) only if the pointer it stores is -/
def sound (v : Bool × Bool × Bool × Bool) : Bool := (!v.1 || v.2.2.1) && (!v.2.1 || v.2.2.2)

/-- thread-safe pointers move and are shared freely through every wrapper (all other type
    parameters instantiated with `Send + Sync` types), `DynGuard` being the stated exception -/
def complete (c : Case) (v : Bool × Bool × Bool × Bool) : Bool :=
  c.w == .dynGuard || !(v.2.2.1 && v.2.2.2) || (v.1 && v.2.1)

/-- everything C19 says about one table cell -/
def cellOk (p : Case × (Bool × Bool × Bool × Bool)) : Bool :=
  let c := p.1; let v := p.2
  sound v && complete c v &&
  -- `DynGuard` is deliberately neither
  (c.w != .dynGuard || (!v.1 && !v.2.1)) &&
  -- `Rc`-based kinds never cross threads
  (!(c.pk == .rc || c.pk == .optRc) || (!v.1 && !v.2.1)) &&
  -- a pointee that is not both `Send` and `Sync` never crosses threads inside an `Arc`
  ((c.send && c.sync) || (!v.1 && !v.2.1))

/-- The table in the form the kernel evaluates.  The stored pointer's type `k` is one and the same
    term in the cells of all thirteen wrappers, and the kernel keeps what it has once reduced: the
    verdicts on `k` and the `Guard` type built from it are computed once per kind and strategy, not
    once per cell (which halves the work). -/
theorem table_shared :
    (allW.all fun w => allPK.all fun pk => allStrat.all fun st => allFlags.all fun f =>
      let k := pk.ty (flags f.1 f.2)
      cellOk (⟨w, pk, st, f.1, f.2⟩, isSend (w.ty k st), isSync (w.ty k st), isSend k, isSync k)) = true := by
  decide +kernel

theorem C19_table : verdicts.all cellOk = true := by
  simp only [verdicts, cases, List.all_map, List.all_flatMap, Function.comp_def]
  exact table_shared

theorem cellOk_of_mem {c : Case} (h : c ∈ cases) : cellOk (c, verdict c) = true :=
  List.all_eq_true.mp C19_table _ (List.mem_map.mpr ⟨c, h, rfl⟩)

theorem C19_sound (c : Case) (h : c ∈ cases) :
    (isSend c.ty = true → isSend c.kind = true) ∧ (isSync c.ty = true → isSync c.kind = true) := by
  have := cellOk_of_mem h
  simp only [cellOk, sound, verdict, Bool.and_eq_true, Bool.or_eq_true, Bool.not_eq_true'] at this
  obtain ⟨⟨⟨⟨⟨h1, h2⟩, _⟩, _⟩, _⟩, _⟩ := this
  exact ⟨fun hs => h1.resolve_left (by simp [hs]), fun hs => h2.resolve_left (by simp [hs])⟩

theorem C19_complete (c : Case) (h : c ∈ cases) (hw : c.w ≠ .dynGuard)
    (hk : isSend c.kind = true ∧ isSync c.kind = true) : isSend c.ty = true ∧ isSync c.ty = true := by
  have := cellOk_of_mem h
  simp only [cellOk, complete, verdict, Bool.and_eq_true, Bool.or_eq_true, Bool.not_eq_true',
    beq_iff_eq] at this
  obtain ⟨⟨⟨⟨_, h2⟩, _⟩, _⟩, _⟩ := this
  exact h2.resolve_left fun h' => h'.elim hw (by simp [hk])

/-- the table is not vacuous: an `ArcSwap` of a `Send + Sync` pointee is accepted, one of a
    `Send`-only pointee is rejected -/
example : isSend (Case.ty ⟨.arcSwap, .arc, .default, true, true⟩) = true ∧
    isSend (Case.ty ⟨.arcSwap, .arc, .default, true, false⟩) = false := by decide +kernel

end C19
