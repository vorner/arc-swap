import ArcSwapModel.M.Frame
import ArcSwapModel.Tie.HybridCas
import ArcSwapModel.Tie.RwCas
import ArcSwapModel.Tie.RwLoad
import ArcSwapModel.Tie.HybridLoad
import ArcSwapModel.Tie.HybridWaitForReaders
import ArcSwapModel.Tie.HybridDrop
import ArcSwapModel.Tie.LibCas
import ArcSwapModel.Tie.AsRawRef
import ArcSwapModel.Tie.AsRawRefGuard
import ArcSwapModel.Tie.AsRawGuard
import ArcSwapModel.Tie.AsRawMutPtr
import ArcSwapModel.Tie.AsRawConstPtr
import ArcSwapModel.Tie.DebtPayAll
import ArcSwapModel.Tie.Sites
import ArcSwapModel.Inv.CasCur

/-!
# C05 — compare_and_swap replaces iff the stored pointer equals `current`

A call-level theorem about `stepCP` (the loop of `CaS::compare_and_swap`: load; compare;
`compare_exchange_weak`; on success pay the debts of the replaced pointer and drop one of the two
references; on failure drop the guard and retry), against an adversary that rewrites the shared
state before every step of the caller — every interleaving with other writers, including A-B-A
between the internal load and the exchange, spurious failures, `current == new`, `current` not
stored, `current` null.

All accepted forms of `current` (`&T`, `&Guard`, `Guard`, `*const`, `*mut`) reduce to the raw
pointer (`T::as_ptr(self)` / `*self`): their five `as_raw` bodies are tied by skeleton obligations
and the machine takes the address.
-/

namespace C05
open M

structure CS where
  l : Locals
  cp : CP
  /-- number of steps of this call that wrote the cell -/
  wrote : Nat
  /-- content of the cell just before / just after that write, recorded at the writing step -/
  before : Option Nat
  after : Option Nat

def isDone : CP → Bool
  | .done _ => true
  | _ => false

/-- does this step write the cell? (exactly the successful exchange) -/
def writes (c cur : Nat) (sb : Shared × Bool) : CP → Bool
  | .cx _ => !sb.2 && sb.1.cells c == some cur
  | _ => false

def stepT (cfg : Cfg) (c cur new : Nat) (sb : Shared × Bool) (r : CS) : CS :=
  let x := stepCP cfg c cur new sb.1 r.l sb.2 r.cp
  if writes c cur sb r.cp then
    { l := x.2.1, cp := x.2.2.1, wrote := r.wrote + 1, before := sb.1.cells c, after := x.1.cells c }
  else { l := x.2.1, cp := x.2.2.1, wrote := r.wrote, before := r.before, after := r.after }

def runT (cfg : Cfg) (c cur new : Nat) : List (Shared × Bool) → CS → CS
  | [], r => r
  | sb :: rest, r => if isDone r.cp then r else runT cfg c cur new rest (stepT cfg c cur new sb r)

/-- outside its nested load and debt walk (which never write a cell of their own: see
    `stepLP`/`stepPP`, whose only cell accesses are reads), a step of the call leaves the cell alone
    unless it is the successful exchange -/
theorem cell_unchanged_unless_writes (cfg : Cfg) (c cur new : Nat) (s : Shared) (l : Locals) (b : Bool)
    (cp : CP) (h : writes c cur (s, b) cp = false) (hl : ∀ ld, cp ≠ .load ld) (hp : ∀ o pp, cp ≠ .pay o pp) :
    (stepCP cfg c cur new s l b cp).1.cells = s.cells := by
  cases cp with
  | load ld => exact absurd rfl (hl ld)
  | pay o pp => exact absurd rfl (hp o pp)
  | dropNew old => simp [stepCP]
  | cx old =>
    simp only [stepCP]
    cases hq : s.cells c with
    | none => simp
    | some q =>
      simp only [writes, hq] at h
      simp only
      split
      · rename_i hc
        simp only [Bool.and_eq_true, Bool.not_eq_true', decide_eq_true_eq] at hc
        obtain ⟨h1, h2⟩ := hc; subst h2; simp [h1] at h
      · split <;> rfl
  | decOld old => simp [stepCP]
  | dropOld gd =>
    simp only [stepCP]
    have := stepGD_cells s gd
    split <;> simp_all
  | done old => rfl

/-- the bookkeeping invariant of one call -/
def K (cur new : Nat) (r : CS) : Prop :=
  match r.cp with
  | .load _ => r.wrote = 0
  | .dropOld _ => r.wrote = 0
  | .cx old => r.wrote = 0 ∧ old.ptr = cur
  | .dropNew old => r.wrote = 0 ∧ old.ptr ≠ cur
  | .pay old _ => r.wrote = 1 ∧ old.ptr = cur ∧ r.before = some cur ∧ r.after = some new
  | .decOld old => r.wrote = 1 ∧ old.ptr = cur ∧ r.before = some cur ∧ r.after = some new
  | .done old => (r.wrote = 1 ∧ old.ptr = cur ∧ r.before = some cur ∧ r.after = some new) ∨
                 (r.wrote = 0 ∧ old.ptr ≠ cur)

theorem K_step (cfg : Cfg) (c cur new : Nat) (sb : Shared × Bool) (r : CS) (h : K cur new r) :
    K cur new (stepT cfg c cur new sb r) := by
  obtain ⟨s, b⟩ := sb
  obtain ⟨l, cp, wrote, before, after⟩ := r
  cases cp with
  | load ld =>
    simp only [K] at h
    simp only [stepT, writes, stepCP, Bool.false_eq_true, ↓reduceIte]
    split
    · rename_i s' l' p d evs heq
      simp only
      split
      · rename_i hne
        split <;> simp only [K] <;> first | exact Or.inr ⟨h, hne⟩ | exact ⟨h, hne⟩
      · rename_i heq2
        simp only [K]; exact ⟨h, by simpa using heq2⟩
    · simp only [K]; exact h
  | dropNew old =>
    simp only [K] at h
    simp only [stepT, writes, stepCP, Bool.false_eq_true, ↓reduceIte, K]
    exact Or.inr h
  | cx old =>
    simp only [K] at h
    obtain ⟨hw, ho⟩ := h
    simp only [stepT, writes, stepCP]
    cases s.cells c with
    | none =>
      simp only [beq_iff_eq, Bool.and_eq_true, Bool.not_eq_true', reduceCtorEq, and_false, ↓reduceIte, K]
      exact ⟨hw, ho⟩
    | some q =>
      by_cases hok : (!b && q = cur) = true
      · have hq : q = cur := by simp at hok; exact hok.2
        have hb : b = false := by simp at hok; exact hok.1
        subst hq; subst hb
        simp only [Bool.not_false, beq_self_eq_true, ↓reduceIte, decide_true, Bool.and_self, K]
        refine ⟨by omega, ho, trivial, ?_⟩
        simp [Shared.writeCell, upd]
      · have hw' : (!b && (some q == some cur)) = false := by
          simp at hok ⊢; intro hb; exact hok hb
        simp only [hw', Bool.false_eq_true, ↓reduceIte]
        have : ¬ ((!b && decide (q = cur)) = true) := by simpa using hok
        simp only [this]
        by_cases hg : GD.ofGuard old = GD.done <;> simp only [hg, ↓reduceIte, K] <;> exact hw
  | pay old pp =>
    simp only [K] at h
    simp only [stepT, writes, stepCP, Bool.false_eq_true, ↓reduceIte]
    split
    · simp only; split <;> simp only [K] <;> first | exact Or.inl h | exact h
    · simp only [K]; exact h
  | decOld old =>
    simp only [K] at h
    simp only [stepT, writes, stepCP, Bool.false_eq_true, ↓reduceIte, K]
    exact Or.inl h
  | dropOld gd =>
    simp only [K] at h
    simp only [stepT, writes, stepCP, Bool.false_eq_true, ↓reduceIte]
    split <;> simp only [K] <;> exact h
  | done old =>
    simp only [stepT, writes, stepCP, Bool.false_eq_true, ↓reduceIte]
    exact h

theorem K_run (cfg : Cfg) (c cur new : Nat) : ∀ (adv : List (Shared × Bool)) (r : CS),
    K cur new r → K cur new (runT cfg c cur new adv r) := by
  intro adv
  induction adv with
  | nil => intro r h; exact h
  | cons sb rest ih =>
    intro r h
    simp only [runT]
    split
    · exact h
    · exact ih _ (K_step cfg c cur new sb r h)

/-- **C05**: when the call returns `old`,
    * `old` is pointer-equal to `current` **iff** this call wrote the cell, and it wrote it exactly
      once, at a step at which the cell held `current`, installing `new` (so the effect is `swap`'s
      and the value returned is the one stored immediately before);
    * otherwise the call wrote nothing (the container is unchanged by it) and the caller can tell by
      `old ≠ current`. -/
theorem C05_iff (cfg : Cfg) (c cur new : Nat) (adv : List (Shared × Bool)) (l : Locals) (old : Guard)
    (h : (runT cfg c cur new adv ⟨l, .load .start, 0, none, none⟩).cp = .done old) :
    let r := runT cfg c cur new adv ⟨l, .load .start, 0, none, none⟩
    (old.ptr = cur ↔ r.wrote = 1) ∧ r.wrote ≤ 1 ∧
    (r.wrote = 1 → r.before = some cur ∧ r.after = some new) ∧
    (old.ptr ≠ cur → r.wrote = 0) := by
  have hk := K_run cfg c cur new adv ⟨l, .load .start, 0, none, none⟩ (by simp [K])
  generalize runT cfg c cur new adv ⟨l, .load .start, 0, none, none⟩ = R at *
  simp only [K, h] at hk
  simp only
  rcases hk with ⟨h1, h2, h3, h4⟩ | ⟨h1, h2⟩
  · exact ⟨⟨fun _ => h1, fun _ => h2⟩, by omega, fun _ => ⟨h3, h4⟩, fun hne => absurd h2 hne⟩
  · exact ⟨⟨fun he => absurd he h2, fun hw => by omega⟩, by omega, fun hw => by omega, fun _ => h1⟩

/-- **the comparison is a comparison of objects (partial)**: what `current` denotes — given as a
    handle — is counted and alive in every state of the call, so its address is not re-allocated
    between the caller's look at it and the exchange (`C06_counted_object_keeps_identity`): the
    pointer found equal at the exchange is the object `current` denoted.  Along every execution
    that satisfies the ledger's assumptions and has raised no fault. -/
theorem C05_current_handle_alive_during_call_partial (K N T : Nat) (hK : 0 < K) (cfg : Cfg)
    (progs : Nat → List (String × Op)) (sched : List (Nat × Bool))
    (he : EnvRun0 K N T (State.initial cfg progs) sched)
    (hf : (run (State.initial cfg progs) sched).sh.fault = none)
    (t c hc : Nat) (keep : Option Guard) (curPtr new g : Nat) (cp : CP) (hp : curPtr ≠ 0)
    (hop : ((run (State.initial cfg progs) sched).th t).op = .cas c (.h hc) keep curPtr new g cp) :
    1 ≤ ((run (State.initial cfg progs) sched).sh.heap curPtr).cnt ∧
      ((run (State.initial cfg progs) sched).sh.heap curPtr).live = true :=
  cas_current_handle_counted K N T hK cfg progs sched he hf t c hc keep curPtr new g cp hp hop

/-- the same for `current` given as a guard (borrowed or not, paid or not) -/
theorem C05_current_guard_alive_during_call_partial (K N T : Nat) (hK : 0 < K) (cfg : Cfg)
    (progs : Nat → List (String × Op)) (sched : List (Nat × Bool))
    (he : EnvRun0 K N T (State.initial cfg progs) sched)
    (hf : (run (State.initial cfg progs) sched).sh.fault = none)
    (t c gc : Nat) (cg : Guard) (new g : Nat) (cp : CP) (hp : cg.ptr ≠ 0)
    (hop : ((run (State.initial cfg progs) sched).th t).op = .cas c (.g gc) (some cg) cg.ptr new g cp) :
    1 ≤ ((run (State.initial cfg progs) sched).sh.heap cg.ptr).cnt ∧
      ((run (State.initial cfg progs) sched).sh.heap cg.ptr).live = true :=
  cas_current_guard_counted K N T hK cfg progs sched he hf t c gc cg new g cp hp hop

end C05
