import ArcSwapModel.Extract

/-!
# Constants of the crate, read from the generated trees

The machine is *defined in terms of* these; the obligations at the end are re-checked by the
kernel against the current source on every run. A changed constant either still satisfies what
the proofs need (then nothing breaks) or an obligation here fails.
-/

namespace Consts
open Extract

def slotCnt : Nat := (constNat "debt/fast.rs" "DEBT_SLOT_CNT").getD 0
def debtNone : Nat := (constNat "debt/mod.rs" "Debt::NONE").getD 0
def replTag : Nat := (constNat "debt/helping.rs" "REPLACEMENT_TAG").getD 0
def genTag : Nat := (constNat "debt/helping.rs" "GEN_TAG").getD 0
def tagMask : Nat := (constNat "debt/helping.rs" "TAG_MASK").getD 0
def idle : Nat := (constNat "debt/helping.rs" "IDLE").getD 1
def nodeUnused : Nat := (constNat "debt/list.rs" "NODE_UNUSED").getD 99
def nodeUsed : Nat := (constNat "debt/list.rs" "NODE_USED").getD 99
def nodeCooldown : Nat := (constNat "debt/list.rs" "NODE_COOLDOWN").getD 99
def nodeChecking : Nat := (constNat "debt/list.rs" "NODE_CHECKING").getD 99

def useFastDefault : Bool :=
  (constBool "strategy/hybrid.rs" "<DefaultConfig as Config>::USE_FAST").getD false
def useFastNoFast : Bool :=
  (constBool "strategy/test_strategies.rs" "<NoFastSlots as Config>::USE_FAST").getD true

/-- literal argument of the first `.wrapping_add(<lit>)` in a function body -/
def wrappingAddLit (file fn : String) : Option Nat := do
  let b ← fnBody file fn
  let hits := b.collect fun s =>
    if s.isTag "mcall" && (s.kid 0).atom? == some "wrapping_add" then
      let arg := s.kid 2
      if arg.isTag "lit" then parseNatLit ((arg.kid 0).atom?.getD "") else none
    else none
  hits.head?

/-- the generation increment -/
def genStep : Nat := (wrappingAddLit "debt/helping.rs" "Slots::get_debt").getD 0
/-- the increment `wraps_next` anticipates must be the same one -/
def genStepPeek : Nat := (wrappingAddLit "debt/helping.rs" "Local::wraps_next").getD 0

/-- alignment of `Handover` (`#[repr(align(N))]`) -/
def handoverAlign : Nat :=
  match findItem "structdef" "debt/helping.rs" "Handover" with
  | some s =>
    let attrs := (s.kid 2).kids.filterMap S.atom?
    match attrs.filterMap (fun a =>
        match a.toList with
        | 'r'::'e'::'p'::'r'::'('::'a'::'l'::'i'::'g'::'n'::'('::rest => parseDigits 10 rest 0 false
        | _ => none) with
    | n :: _ => n
    | [] => 1
  | none => 1

/-! ## Obligations on the constants (what the model and the proofs rely on) -/

/-- The three kinds of `control` content are told apart by their two low bits, a generation never
    carries tag bits of its own, and an envelope address has them free. -/
theorem tags_ok :
    idle = 0 ∧ genTag ≠ replTag ∧ genTag ≠ 0 ∧ replTag ≠ 0 ∧
    genTag &&& tagMask = genTag ∧ replTag &&& tagMask = replTag ∧
    genStep &&& tagMask = 0 ∧ 0 < genStep ∧ genStep = genStepPeek ∧
    handoverAlign &&& tagMask = 0 ∧ tagMask < handoverAlign + 1 := by decide +kernel

/-- `Debt::NONE` is odd and not the null pointer, so it is neither null nor the address of a
    counted allocation (which is at least 2-aligned). -/
theorem debtNone_ok : debtNone % 2 = 1 ∧ debtNone ≠ 0 ∧ debtNone < 4096 := by decide +kernel

theorem node_states_distinct :
    nodeUnused ≠ nodeUsed ∧ nodeUsed ≠ nodeCooldown ∧ nodeUnused ≠ nodeCooldown := by decide +kernel

/-- the transient state of `check_cooldown` is none of the others -/
theorem node_checking_distinct :
    nodeChecking ≠ nodeUsed ∧ nodeChecking ≠ nodeUnused ∧ nodeChecking ≠ nodeCooldown := by decide +kernel

theorem slotCnt_pos : 0 < slotCnt := by decide +kernel

theorem strategies : useFastDefault = true ∧ useFastNoFast = false := by decide +kernel

end Consts
