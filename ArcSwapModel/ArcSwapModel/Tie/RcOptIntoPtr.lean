import ArcSwapModel.Extract
/-! Tie obligation for `<Option<T> as RefCnt>::into_ptr` (src/ref_cnt.rs) — generated by tools/gen_tie.py from the source
revision the model transcribes; re-proved by the kernel against the current source on every run. -/
namespace Tie.RcOptIntoPtr
open Extract
def file : String := "ref_cnt.rs"
def fn : String := "<Option<T> as RefCnt>::into_ptr"
def expectedSkel : List String := ["mcall:map", "mcall:unwrap_or_else"]
def expectedSites : List (String × List Ord) := []
/-- current source: same operations at the same places, orderings at least as strong -/
def sitesOk : Bool :=
  let cur := (fnSites file fn).map (fun s => (s.op, s.ords))
  cur.length == expectedSites.length &&
  (List.zip cur expectedSites).all (fun p => p.1.1 == p.2.1 && p.1.2.length == p.2.2.length &&
    (List.zip p.1.2 p.2.2).all (fun o => o.1.ge o.2))
theorem skeleton : fnSkel file fn = expectedSkel := by decide +kernel
theorem sites : sitesOk = true := by decide +kernel
end Tie.RcOptIntoPtr
