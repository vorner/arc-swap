import ArcSwapModel.Extract
/-! Tie obligation for `Node::get` (src/debt/list.rs) — generated by tools/gen_tie.py from the source
revision the model transcribes; re-proved by the kernel against the current source on every run. -/
namespace Tie.ListNodeGet
open Extract
def file : String := "debt/list.rs"
def fn : String := "Node::get"
def expectedSkel : List String := ["closure(", "mcall:check_cooldown", "if(", "mcall", "is_ok", "mcall", "compare_exchange", "field", "path", "node", "in_use", "path", "NODE_UNUSED", "path", "NODE_USED", "path", "SeqCst", "path", "Relaxed", ")", "atomic:compare_exchange:node.in_use", "mcall:is_ok", "call:Some", "endif", "endclosure", "call:Self::traverse", "closure(", "call:Box::<Node>::default", "call:Box::leak", "mcall:init", "atomic:load:LIST_HEAD", "loop(", "if(", "iflet", "pat", "Err (old)", "mcall", "compare_exchange_weak", "path", "LIST_HEAD", "path", "head", "path", "node", "path", "SeqCst", "path", "Relaxed", ")", "iflet", "atomic:compare_exchange_weak:LIST_HEAD", "return", "endif", "endloop", "endclosure", "mcall:unwrap_or_else"]
def expectedSites : List (String × List Ord) := [("compare_exchange", [.seqCst, .relaxed]), ("load", [.relaxed]), ("compare_exchange_weak", [.seqCst, .relaxed])]
/-- current source: same operations at the same places, orderings at least as strong -/
def sitesOk : Bool :=
  let cur := (fnSites file fn).map (fun s => (s.op, s.ords))
  cur.length == expectedSites.length &&
  (List.zip cur expectedSites).all (fun p => p.1.1 == p.2.1 && p.1.2.length == p.2.2.length &&
    (List.zip p.1.2 p.2.2).all (fun o => o.1.ge o.2))
theorem skeleton : fnSkel file fn = expectedSkel := by decide +kernel
theorem sites : sitesOk = true := by decide +kernel
end Tie.ListNodeGet
