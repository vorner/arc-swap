import ArcSwapModel.M.Machine

/-!
# Tie obligations: the atomic call sites of `M` against the generated trees

Checked by the kernel on every run, against what `rs2lean` printed from the current source.
-/

namespace Tie.Sites
open Extract

/-- the source parsed completely -/
theorem no_parse_failures : Generated.parseFailures = [] := by decide +kernel

/-! ## Sites: every atomic access of the machine exists in the source with the operation and the
orderings the machine (and the ordering lemmas) assume -/

structure SiteSpec where
  file : String
  fn : String
  idx : Nat
  op : String
  ords : List Ord
  deriving DecidableEq, Repr

open M in
def spec : M.Site → SiteSpec
  | .attempt0 => ⟨"strategy/hybrid.rs", "HybridProtection<T>::attempt", 0, "load", [.relaxed]⟩
  | .attempt1 => ⟨"strategy/hybrid.rs", "HybridProtection<T>::attempt", 1, "load", [.seqCst]⟩
  | .fallback0 => ⟨"strategy/hybrid.rs", "HybridProtection<T>::fallback", 0, "load", [.seqCst]⟩
  | .casCx => ⟨"strategy/hybrid.rs", "<HybridStrategy<Cfg> as CaS<T>>::compare_and_swap", 0, "compare_exchange_weak", [.seqCst, .relaxed]⟩
  | .swap0 => ⟨"lib.rs", "ArcSwapAny<T,S>::swap", 0, "swap", [.seqCst]⟩
  | .fastGet0 => ⟨"debt/fast.rs", "Slots::get_debt", 0, "load", [.relaxed]⟩
  | .fastGet1 => ⟨"debt/fast.rs", "Slots::get_debt", 1, "swap", [.seqCst]⟩
  | .helpGet0 => ⟨"debt/helping.rs", "Slots::get_debt", 0, "store", [.seqCst]⟩
  | .helpGet1 => ⟨"debt/helping.rs", "Slots::get_debt", 1, "swap", [.seqCst]⟩
  | .help0 => ⟨"debt/helping.rs", "Slots::help", 0, "load", [.relaxed]⟩
  | .help1 => ⟨"debt/helping.rs", "Slots::help", 1, "load", [.seqCst]⟩
  | .help2 => ⟨"debt/helping.rs", "Slots::help", 2, "load", [.seqCst]⟩
  | .help3 => ⟨"debt/helping.rs", "Slots::help", 3, "load", [.seqCst]⟩
  | .help4 => ⟨"debt/helping.rs", "Slots::help", 4, "load", [.seqCst]⟩
  | .help5 => ⟨"debt/helping.rs", "Slots::help", 5, "load", [.seqCst]⟩
  | .help6 => ⟨"debt/helping.rs", "Slots::help", 6, "store", [.seqCst]⟩
  | .help7 => ⟨"debt/helping.rs", "Slots::help", 7, "compare_exchange", [.seqCst, .seqCst]⟩
  | .help8 => ⟨"debt/helping.rs", "Slots::help", 8, "store", [.seqCst]⟩
  | .confirm0 => ⟨"debt/helping.rs", "Slots::confirm", 0, "swap", [.seqCst]⟩
  | .confirm1 => ⟨"debt/helping.rs", "Slots::confirm", 1, "swap", [.seqCst]⟩
  | .confirm2 => ⟨"debt/helping.rs", "Slots::confirm", 2, "load", [.seqCst]⟩
  | .confirm3 => ⟨"debt/helping.rs", "Slots::confirm", 3, "store", [.seqCst]⟩
  | .resDrop => ⟨"debt/list.rs", "<NodeReservation<'_> as Drop>::drop", 0, "fetch_sub", [.release]⟩
  | .traverse0 => ⟨"debt/list.rs", "Node::traverse", 0, "load", [.seqCst]⟩
  | .cooldown0 => ⟨"debt/list.rs", "Node::start_cooldown", 0, "swap", [.release]⟩
  | .cc0 => ⟨"debt/list.rs", "Node::check_cooldown", 0, "compare_exchange", [.acquire, .relaxed]⟩
  | .cc1 => ⟨"debt/list.rs", "Node::check_cooldown", 1, "load", [.relaxed]⟩
  | .cc2 => ⟨"debt/list.rs", "Node::check_cooldown", 2, "compare_exchange", [.relaxed, .relaxed]⟩
  | .reserve0 => ⟨"debt/list.rs", "Node::reserve_writer", 0, "fetch_add", [.acquire]⟩
  | .get0 => ⟨"debt/list.rs", "Node::get", 0, "compare_exchange", [.seqCst, .relaxed]⟩
  | .get1 => ⟨"debt/list.rs", "Node::get", 1, "load", [.relaxed]⟩
  | .get2 => ⟨"debt/list.rs", "Node::get", 2, "compare_exchange_weak", [.seqCst, .relaxed]⟩
  | .newFast0 => ⟨"debt/list.rs", "LocalNode::new_fast", 0, "load", [.relaxed]⟩
  | .newHelping0 => ⟨"debt/list.rs", "LocalNode::new_helping", 0, "load", [.relaxed]⟩
  | .confirmHelping0 => ⟨"debt/list.rs", "LocalNode::confirm_helping", 0, "load", [.relaxed]⟩
  | .lnHelp0 => ⟨"debt/list.rs", "LocalNode::help", 0, "load", [.relaxed]⟩
  | .pay0 => ⟨"debt/mod.rs", "Debt::pay", 0, "compare_exchange", [.acqRel, .acquire]⟩

def allModelSites : List M.Site :=
  [.attempt0, .attempt1, .fallback0, .casCx, .swap0, .fastGet0, .fastGet1, .helpGet0, .helpGet1,
   .help0, .help1, .help2, .help3, .help4, .help5, .help6, .help7, .help8,
   .confirm0, .confirm1, .confirm2, .confirm3, .resDrop, .traverse0, .cooldown0, .cc0, .cc1, .cc2,
   .reserve0, .get0, .get1, .get2, .newFast0, .newHelping0, .confirmHelping0, .lnHelp0, .pay0]

theorem allModelSites_complete (s : M.Site) : s ∈ allModelSites := by
  cases s <;> decide

/-- the site exists in the current source, with the same operation, and every ordering there is at
    least as strong as the one recorded here -/
def siteOk (s : M.Site) : Bool :=
  let sp := spec s
  match (fnSites sp.file sp.fn)[sp.idx]? with
  | some st => st.op == sp.op && st.ords.length == sp.ords.length &&
      (List.zip st.ords sp.ords).all (fun p => p.1.ge p.2)
  | none => false

def siteMismatches : List M.Site := allModelSites.filter (fun s => !siteOk s)

theorem sites_match : siteMismatches = [] := by decide +kernel

end Tie.Sites
