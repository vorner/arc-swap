import ArcSwapModel.Extract
/-! Tie obligation for `<HybridStrategy<Cfg> as CaS<T>>::compare_and_swap` (src/strategy/hybrid.rs) — generated by tools/gen_tie.py from the source
revision the model transcribes; re-proved by the kernel against the current source on every run. -/
namespace Tie.HybridCas
open Extract
def file : String := "strategy/hybrid.rs"
def fn : String := "<HybridStrategy<Cfg> as CaS<T>>::compare_and_swap"
def expectedSkel : List String := ["loop(", "call:<SelfasInnerStrategy<T>>::load", "if(", "binary", "!=", "mcall", "as_ptr", "path", "old", "mcall", "as_raw", "path", "current", ")", "mcall:as_ptr", "mcall:as_raw", "call:drop", "call:drop", "return", "endif", "call:T::as_ptr", "if(", "mcall", "is_ok", "mcall", "compare_exchange_weak", "path", "storage", "mcall", "as_raw", "path", "current", "path", "new_raw", "path", "SeqCst", "path", "Relaxed", ")", "mcall:as_raw", "atomic:compare_exchange_weak:storage", "mcall:is_ok", "call:T::into_ptr", "mcall:as_ptr", "call:<SelfasInnerStrategy<T>>::wait_for_readers", "mcall:as_ptr", "call:T::dec", "call:drop", "return", "endif", "endloop"]
def expectedSites : List (String × List Ord) := [("compare_exchange_weak", [.seqCst, .relaxed])]
/-- current source: same operations at the same places, orderings at least as strong -/
def sitesOk : Bool :=
  let cur := (fnSites file fn).map (fun s => (s.op, s.ords))
  cur.length == expectedSites.length &&
  (List.zip cur expectedSites).all (fun p => p.1.1 == p.2.1 && p.1.2.length == p.2.2.length &&
    (List.zip p.1.2 p.2.2).all (fun o => o.1.ge o.2))
theorem skeleton : fnSkel file fn = expectedSkel := by decide +kernel
theorem sites : sitesOk = true := by decide +kernel
end Tie.HybridCas
