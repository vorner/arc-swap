import ArcSwapModel.Extract
/-! Tie obligation for `Slots::get_debt` (src/debt/fast.rs) — generated by tools/gen_tie.py from the source
revision the model transcribes; re-proved by the kernel against the current source on every run. -/
namespace Tie.FastGetDebt
open Extract
def file : String := "debt/fast.rs"
def fn : String := "Slots::get_debt"
def expectedSkel : List String := ["mcall:get", "mcall:len", "for(", "if(", "binary", "==", "mcall", "load", "field", "path", "slot", "0", "path", "Relaxed", "path", "Debt::NONE", ")", "atomic:load:slot.0", "atomic:swap:slot.0", "debug:debug_assert_eq", "mcall:set", "call:Some", "return", "endif", "endfor"]
def expectedSites : List (String × List Ord) := [("load", [.relaxed]), ("swap", [.seqCst])]
/-- current source: same operations at the same places, orderings at least as strong -/
def sitesOk : Bool :=
  let cur := (fnSites file fn).map (fun s => (s.op, s.ords))
  cur.length == expectedSites.length &&
  (List.zip cur expectedSites).all (fun p => p.1.1 == p.2.1 && p.1.2.length == p.2.2.length &&
    (List.zip p.1.2 p.2.2).all (fun o => o.1.ge o.2))
theorem skeleton : fnSkel file fn = expectedSkel := by decide +kernel
theorem sites : sitesOk = true := by decide +kernel
end Tie.FastGetDebt
