import ArcSwapModel.Extract
/-! Tie obligation for `Debt::pay_all` (src/debt/mod.rs) — generated by tools/gen_tie.py from the source
revision the model transcribes; re-proved by the kernel against the current source on every run. -/
namespace Tie.DebtPayAll
open Extract
def file : String := "debt/mod.rs"
def fn : String := "Debt::pay_all"
def expectedSkel : List String := ["closure(", "call:T::from_ptr", "call:T::inc", "closure(", "mcall:reserve_writer", "mcall:help", "mcall:fast_slots", "mcall:helping_slot", "call:core::iter::once", "mcall:chain", "for(", "if(", "mcall", "pay", "turbofish", ":: < T >", "path", "slot", "path", "ptr", ")", "mcall:pay", "call:T::inc", "endif", "endfor", "endclosure", "call:Node::traverse::<(),_>", "endclosure", "call:LocalNode::with"]
def expectedSites : List (String × List Ord) := []
/-- current source: same operations at the same places, orderings at least as strong -/
def sitesOk : Bool :=
  let cur := (fnSites file fn).map (fun s => (s.op, s.ords))
  cur.length == expectedSites.length &&
  (List.zip cur expectedSites).all (fun p => p.1.1 == p.2.1 && p.1.2.length == p.2.2.length &&
    (List.zip p.1.2 p.2.2).all (fun o => o.1.ge o.2))
theorem skeleton : fnSkel file fn = expectedSkel := by decide +kernel
theorem sites : sitesOk = true := by decide +kernel
end Tie.DebtPayAll
