import ArcSwapModel.Extract
/-! Tie obligation for `LocalNode::with` (src/debt/list.rs) — generated by tools/gen_tie.py from the source
revision the model transcribes; re-proved by the kernel against the current source on every run. -/
namespace Tie.ListWith
open Extract
def file : String := "debt/list.rs"
def fn : String := "LocalNode::with"
def expectedSkel : List String := ["call:Some", "call:Cell::new", "closure(", "if(", "mcall", "is_none", "mcall", "get", "field", "path", "head", "node", ")", "mcall:get", "mcall:is_none", "call:Node::get", "call:Some", "mcall:set", "endif", "mcall:take", "mcall:unwrap", "call:f", "endclosure", "mcall:try_with", "closure(", "call:Node::get", "call:Some", "call:Cell::new", "call:FastLocal::default", "call:HelpingLocal::default", "mcall:take", "mcall:unwrap", "call:f", "endclosure", "mcall:unwrap_or_else"]
def expectedSites : List (String × List Ord) := []
/-- current source: same operations at the same places, orderings at least as strong -/
def sitesOk : Bool :=
  let cur := (fnSites file fn).map (fun s => (s.op, s.ords))
  cur.length == expectedSites.length &&
  (List.zip cur expectedSites).all (fun p => p.1.1 == p.2.1 && p.1.2.length == p.2.2.length &&
    (List.zip p.1.2 p.2.2).all (fun o => o.1.ge o.2))
theorem skeleton : fnSkel file fn = expectedSkel := by decide +kernel
theorem sites : sitesOk = true := by decide +kernel
end Tie.ListWith
