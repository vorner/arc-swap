import ArcSwapModel.Extract
/-! Tie obligation for `HybridProtection<T>::attempt` (src/strategy/hybrid.rs) — generated by tools/gen_tie.py from the source
revision the model transcribes; re-proved by the kernel against the current source on every run. -/
namespace Tie.HybridAttempt
open Extract
def file : String := "strategy/hybrid.rs"
def fn : String := "HybridProtection<T>::attempt"
def expectedSkel : List String := ["atomic:load:storage", "mcall:new_fast", "?", "atomic:load:storage", "if(", "binary", "==", "path", "ptr", "path", "confirm", ")", "call:Some", "call:Self::new", "call:Some", "if(", "mcall", "pay", "turbofish", ":: < T >", "path", "debt", "path", "ptr", ")", "mcall:pay", "call:T::dec", "endif", "endif"]
def expectedSites : List (String × List Ord) := [("load", [.relaxed]), ("load", [.seqCst])]
/-- current source: same operations at the same places, orderings at least as strong -/
def sitesOk : Bool :=
  let cur := (fnSites file fn).map (fun s => (s.op, s.ords))
  cur.length == expectedSites.length &&
  (List.zip cur expectedSites).all (fun p => p.1.1 == p.2.1 && p.1.2.length == p.2.2.length &&
    (List.zip p.1.2 p.2.2).all (fun o => o.1.ge o.2))
theorem skeleton : fnSkel file fn = expectedSkel := by decide +kernel
theorem sites : sitesOk = true := by decide +kernel
end Tie.HybridAttempt
