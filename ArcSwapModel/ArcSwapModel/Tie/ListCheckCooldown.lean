import ArcSwapModel.Extract
/-! Tie obligation for `Node::check_cooldown` (src/debt/list.rs) — generated by tools/gen_tie.py from the source
revision the model transcribes; re-proved by the kernel against the current source on every run. -/
namespace Tie.ListCheckCooldown
open Extract
def file : String := "debt/list.rs"
def fn : String := "Node::check_cooldown"
def expectedSkel : List String := ["if(", "mcall", "is_ok", "mcall", "compare_exchange", "field", "path", "self", "in_use", "path", "NODE_COOLDOWN", "path", "NODE_CHECKING", "path", "Acquire", "path", "Relaxed", ")", "atomic:compare_exchange:self.in_use", "mcall:is_ok", "if(", "binary", "==", "mcall", "load", "field", "path", "self", "active_writers", "path", "Relaxed", "lit", "0", ")", "atomic:load:self.active_writers", "endif", "atomic:compare_exchange:self.in_use", "mcall:is_ok", "debug:debug_assert", "endif"]
def expectedSites : List (String × List Ord) := [("compare_exchange", [.acquire, .relaxed]), ("load", [.relaxed]), ("compare_exchange", [.relaxed, .relaxed])]
/-- current source: same operations at the same places, orderings at least as strong -/
def sitesOk : Bool :=
  let cur := (fnSites file fn).map (fun s => (s.op, s.ords))
  cur.length == expectedSites.length &&
  (List.zip cur expectedSites).all (fun p => p.1.1 == p.2.1 && p.1.2.length == p.2.2.length &&
    (List.zip p.1.2 p.2.2).all (fun o => o.1.ge o.2))
theorem skeleton : fnSkel file fn = expectedSkel := by decide +kernel
theorem sites : sitesOk = true := by decide +kernel
end Tie.ListCheckCooldown
