import ArcSwapModel.Extract
/-! Tie obligation for `Slots::confirm` (src/debt/helping.rs) — generated by tools/gen_tie.py from the source
revision the model transcribes; re-proved by the kernel against the current source on every run. -/
namespace Tie.HelpingConfirm
open Extract
def file : String := "debt/helping.rs"
def fn : String := "Slots::confirm"
def expectedSkel : List String := ["atomic:swap:self.slot.0", "debug:debug_assert_eq", "atomic:swap:self.control", "if(", "binary", "==", "path", "control", "path", "gen", ")", "call:Ok", "debug:debug_assert_eq", "atomic:load:unsafe.block.tail.ref.unary.*.handover.0", "atomic:store:self.space_offer", "call:Err", "endif"]
def expectedSites : List (String × List Ord) := [("swap", [.seqCst]), ("swap", [.seqCst]), ("load", [.seqCst]), ("store", [.seqCst])]
/-- current source: same operations at the same places, orderings at least as strong -/
def sitesOk : Bool :=
  let cur := (fnSites file fn).map (fun s => (s.op, s.ords))
  cur.length == expectedSites.length &&
  (List.zip cur expectedSites).all (fun p => p.1.1 == p.2.1 && p.1.2.length == p.2.2.length &&
    (List.zip p.1.2 p.2.2).all (fun o => o.1.ge o.2))
theorem skeleton : fnSkel file fn = expectedSkel := by decide +kernel
theorem sites : sitesOk = true := by decide +kernel
end Tie.HelpingConfirm
