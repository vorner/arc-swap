import ArcSwapModel.Extract
/-! Tie obligation for `Slots::help` (src/debt/helping.rs) — generated by tools/gen_tie.py from the source
revision the model transcribes; re-proved by the kernel against the current source on every run. -/
namespace Tie.HelpingHelp
open Extract
def file : String := "debt/helping.rs"
def fn : String := "Slots::help"
def expectedSkel : List String := ["atomic:load:self.control", "debug:debug_assert_eq", "atomic:load:who.control", "loop(", "match(", "arm:IDLE", "guard:binary == path control path IDLE", "break", "arm:REPLACEMENT_TAG", "break", "arm:GEN_TAG", "call:ptr::eq", "debug:debug_assert", "atomic:load:who.active_addr", "if(", "binary", "!=", "path", "active_addr", "path", "storage_addr", ")", "atomic:load:who.control", "if(", "binary", "==", "path", "new_control", "path", "control", ")", "break", "continue", "endif", "endif", "call:replacement", "call:T::as_ptr", "atomic:load:who.space_offer", "atomic:load:self.space_offer", "atomic:store:unary.*.my_space.0", "panic:assert_eq", "match(", "atomic:compare_exchange:who.control", "arm:Ok (_)", "atomic:store:self.space_offer", "call:T::into_ptr", "break", "arm:Err (new_control)", "endmatch", "arm:_", "panic:unreachable", "endmatch", "endloop"]
def expectedSites : List (String × List Ord) := [("load", [.relaxed]), ("load", [.seqCst]), ("load", [.seqCst]), ("load", [.seqCst]), ("load", [.seqCst]), ("load", [.seqCst]), ("store", [.seqCst]), ("compare_exchange", [.seqCst, .seqCst]), ("store", [.seqCst])]
/-- current source: same operations at the same places, orderings at least as strong -/
def sitesOk : Bool :=
  let cur := (fnSites file fn).map (fun s => (s.op, s.ords))
  cur.length == expectedSites.length &&
  (List.zip cur expectedSites).all (fun p => p.1.1 == p.2.1 && p.1.2.length == p.2.2.length &&
    (List.zip p.1.2 p.2.2).all (fun o => o.1.ge o.2))
theorem skeleton : fnSkel file fn = expectedSkel := by decide +kernel
theorem sites : sitesOk = true := by decide +kernel
end Tie.HelpingHelp
