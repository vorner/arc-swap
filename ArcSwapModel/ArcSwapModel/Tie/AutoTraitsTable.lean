import ArcSwapModel.AutoTraitsExtract
import ArcSwapModel.AutoTraitsTable
/-! Tie obligation for C19: the struct table the auto-trait verdicts were proved for is the one the
current source gives (struct definitions with field types, explicit `Send`/`Sync` impls, type
aliases, associated-type definitions). -/
namespace Tie.AutoTraitsTable
theorem table_tie : AutoTraits.extractTable = AutoTraits.Golden.table := by decide +kernel
end Tie.AutoTraitsTable
