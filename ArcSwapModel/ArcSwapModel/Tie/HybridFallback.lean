import ArcSwapModel.Extract
/-! Tie obligation for `HybridProtection<T>::fallback` (src/strategy/hybrid.rs) — generated by tools/gen_tie.py from the source
revision the model transcribes; re-proved by the kernel against the current source on every run. -/
namespace Tie.HybridFallback
open Extract
def file : String := "strategy/hybrid.rs"
def fn : String := "HybridProtection<T>::fallback"
def expectedSkel : List String := ["mcall:new_helping", "atomic:load:storage", "match(", "mcall:confirm_helping", "arm:Ok (debt)", "call:Some", "call:Self::new", "mcall:into_inner", "call:Self::from_inner", "arm:Err ((unused_debt , replacement))", "call:Self::new", "if(", "unary", "!", "mcall", "pay", "turbofish", ":: < T >", "path", "unused_debt", "path", "candidate", ")", "mcall:pay", "call:T::dec", "endif", "endmatch"]
def expectedSites : List (String × List Ord) := [("load", [.seqCst])]
/-- current source: same operations at the same places, orderings at least as strong -/
def sitesOk : Bool :=
  let cur := (fnSites file fn).map (fun s => (s.op, s.ords))
  cur.length == expectedSites.length &&
  (List.zip cur expectedSites).all (fun p => p.1.1 == p.2.1 && p.1.2.length == p.2.2.length &&
    (List.zip p.1.2 p.2.2).all (fun o => o.1.ge o.2))
theorem skeleton : fnSkel file fn = expectedSkel := by decide +kernel
theorem sites : sitesOk = true := by decide +kernel
end Tie.HybridFallback
