import ArcSwapModel.M.Ops

/-!
# Frame lemmas: which fields of the shared state the primitive updates leave alone
-/

namespace M

@[simp] theorem setFault_heap (s : Shared) (f : Fault) : (s.setFault f).heap = s.heap := by
  unfold Shared.setFault; split <;> rfl
@[simp] theorem setFault_cells (s : Shared) (f : Fault) : (s.setFault f).cells = s.cells := by
  unfold Shared.setFault; split <;> rfl
@[simp] theorem setFault_nodes (s : Shared) (f : Fault) : (s.setFault f).nodes = s.nodes := by
  unfold Shared.setFault; split <;> rfl
@[simp] theorem setFault_nNodes (s : Shared) (f : Fault) : (s.setFault f).nNodes = s.nNodes := by
  unfold Shared.setFault; split <;> rfl
@[simp] theorem setFault_head (s : Shared) (f : Fault) : (s.setFault f).head = s.head := by
  unfold Shared.setFault; split <;> rfl
@[simp] theorem setFault_hreg (s : Shared) (f : Fault) : (s.setFault f).hreg = s.hreg := by
  unfold Shared.setFault; split <;> rfl
@[simp] theorem setFault_greg (s : Shared) (f : Fault) : (s.setFault f).greg = s.greg := by
  unfold Shared.setFault; split <;> rfl
@[simp] theorem setFault_busy (s : Shared) (f : Fault) : (s.setFault f).busy = s.busy := by
  unfold Shared.setFault; split <;> rfl
@[simp] theorem setFault_hist (s : Shared) (f : Fault) : (s.setFault f).hist = s.hist := by
  unfold Shared.setFault; split <;> rfl
@[simp] theorem setFault_nextId (s : Shared) (f : Fault) : (s.setFault f).nextId = s.nextId := by
  unfold Shared.setFault; split <;> rfl
theorem setFault_fault_of_none (s : Shared) (f : Fault) (h : s.fault = none) : (s.setFault f).fault = some f := by
  unfold Shared.setFault; simp [h]
theorem setFault_fault_of_some (s : Shared) (f g : Fault) (h : s.fault = some g) : (s.setFault f).fault = some g := by
  unfold Shared.setFault; simp [h]

@[simp] theorem setNode_heap (s : Shared) (n : Nat) (f : Node → Node) : (s.setNode n f).heap = s.heap := rfl
@[simp] theorem setNode_cells (s : Shared) (n : Nat) (f : Node → Node) : (s.setNode n f).cells = s.cells := rfl
@[simp] theorem setNode_nNodes (s : Shared) (n : Nat) (f : Node → Node) : (s.setNode n f).nNodes = s.nNodes := rfl
@[simp] theorem setNode_head (s : Shared) (n : Nat) (f : Node → Node) : (s.setNode n f).head = s.head := rfl
@[simp] theorem setNode_hreg (s : Shared) (n : Nat) (f : Node → Node) : (s.setNode n f).hreg = s.hreg := rfl
@[simp] theorem setNode_greg (s : Shared) (n : Nat) (f : Node → Node) : (s.setNode n f).greg = s.greg := rfl
@[simp] theorem setNode_busy (s : Shared) (n : Nat) (f : Node → Node) : (s.setNode n f).busy = s.busy := rfl
@[simp] theorem setNode_hist (s : Shared) (n : Nat) (f : Node → Node) : (s.setNode n f).hist = s.hist := rfl
@[simp] theorem setNode_fault (s : Shared) (n : Nat) (f : Node → Node) : (s.setNode n f).fault = s.fault := rfl
@[simp] theorem setNode_nextId (s : Shared) (n : Nat) (f : Node → Node) : (s.setNode n f).nextId = s.nextId := rfl
@[simp] theorem setNode_nodes_same (s : Shared) (n : Nat) (f : Node → Node) :
    (s.setNode n f).nodes n = f (s.nodes n) := by simp [Shared.setNode]
@[simp] theorem setNode_nodes_other (s : Shared) (n m : Nat) (f : Node → Node) (h : m ≠ n) :
    (s.setNode n f).nodes m = s.nodes m := by simp [Shared.setNode, h]

/-! `incObj` / `decObj` touch only the heap (and the fault flag) -/

@[simp] theorem incObj_cells (s : Shared) (a : Nat) : (incObj s a).1.cells = s.cells := by
  simp only [incObj]; split <;> simp
@[simp] theorem incObj_nodes (s : Shared) (a : Nat) : (incObj s a).1.nodes = s.nodes := by
  simp only [incObj]; split <;> simp
@[simp] theorem incObj_nNodes (s : Shared) (a : Nat) : (incObj s a).1.nNodes = s.nNodes := by
  simp only [incObj]; split <;> simp
@[simp] theorem incObj_head (s : Shared) (a : Nat) : (incObj s a).1.head = s.head := by
  simp only [incObj]; split <;> simp
@[simp] theorem incObj_hreg (s : Shared) (a : Nat) : (incObj s a).1.hreg = s.hreg := by
  simp only [incObj]; split <;> simp
@[simp] theorem incObj_greg (s : Shared) (a : Nat) : (incObj s a).1.greg = s.greg := by
  simp only [incObj]; split <;> simp
@[simp] theorem incObj_busy (s : Shared) (a : Nat) : (incObj s a).1.busy = s.busy := by
  simp only [incObj]; split <;> simp
@[simp] theorem incObj_hist (s : Shared) (a : Nat) : (incObj s a).1.hist = s.hist := by
  simp only [incObj]; split <;> simp
@[simp] theorem incObj_nextId (s : Shared) (a : Nat) : (incObj s a).1.nextId = s.nextId := by
  simp only [incObj]; split <;> simp

@[simp] theorem decObj_cells (s : Shared) (a : Nat) : (decObj s a).1.cells = s.cells := by
  simp only [decObj]; (repeat' split) <;> simp
@[simp] theorem decObj_nodes (s : Shared) (a : Nat) : (decObj s a).1.nodes = s.nodes := by
  simp only [decObj]; (repeat' split) <;> simp
@[simp] theorem decObj_nNodes (s : Shared) (a : Nat) : (decObj s a).1.nNodes = s.nNodes := by
  simp only [decObj]; (repeat' split) <;> simp
@[simp] theorem decObj_head (s : Shared) (a : Nat) : (decObj s a).1.head = s.head := by
  simp only [decObj]; (repeat' split) <;> simp
@[simp] theorem decObj_hreg (s : Shared) (a : Nat) : (decObj s a).1.hreg = s.hreg := by
  simp only [decObj]; (repeat' split) <;> simp
@[simp] theorem decObj_greg (s : Shared) (a : Nat) : (decObj s a).1.greg = s.greg := by
  simp only [decObj]; (repeat' split) <;> simp
@[simp] theorem decObj_busy (s : Shared) (a : Nat) : (decObj s a).1.busy = s.busy := by
  simp only [decObj]; (repeat' split) <;> simp
@[simp] theorem decObj_hist (s : Shared) (a : Nat) : (decObj s a).1.hist = s.hist := by
  simp only [decObj]; (repeat' split) <;> simp
@[simp] theorem decObj_nextId (s : Shared) (a : Nat) : (decObj s a).1.nextId = s.nextId := by
  simp only [decObj]; (repeat' split) <;> simp

/-- `stepGD` and `stepGI` (guard drop / promotion) never touch a cell -/
@[simp] theorem stepGD_cells (s : Shared) (gd : GD) : (stepGD s gd).1.cells = s.cells := by
  cases gd <;> simp only [stepGD] <;> (try split) <;> simp
@[simp] theorem stepGI_cells (s : Shared) (gi : GI) : (stepGI s gi).1.cells = s.cells := by
  cases gi <;> simp only [stepGI] <;> (try split) <;> simp

/-! ## The sub-machines never write a storage cell or the write history (only `swap`'s exchange,
`compare_and_swap`'s successful exchange and container creation/consumption do) -/

theorem stepNG_frame (s : Shared) (b : Bool) (ng : NG) :
    (stepNG s b ng).1.cells = s.cells ∧ (stepNG s b ng).1.hist = s.hist ∧ (stepNG s b ng).1.heap = s.heap := by
  cases ng <;> simp only [stepNG] <;> (repeat' split) <;> simp [Shared.setNode]

theorem stepCD_frame (s : Shared) (cd : CD) :
    (stepCD s cd).1.cells = s.cells ∧ (stepCD s cd).1.hist = s.hist ∧ (stepCD s cd).1.heap = s.heap := by
  cases cd <;> simp only [stepCD] <;> (repeat' split) <;> simp

theorem stepGD_frame (s : Shared) (gd : GD) :
    (stepGD s gd).1.cells = s.cells ∧ (stepGD s gd).1.hist = s.hist := by
  cases gd <;> simp only [stepGD] <;> (repeat' split) <;> simp

theorem stepGI_frame (s : Shared) (gi : GI) :
    (stepGI s gi).1.cells = s.cells ∧ (stepGI s gi).1.hist = s.hist := by
  cases gi <;> simp only [stepGI] <;> (repeat' split) <;> simp

theorem stepLP_frame (cfg : Cfg) (c : Nat) (s : Shared) (l : Locals) (b : Bool) (lp : LP) :
    (stepLP cfg c s l b lp).1.cells = s.cells ∧ (stepLP cfg c s l b lp).1.hist = s.hist := by
  cases lp with
  | get ng =>
    have := stepNG_frame s b ng
    simp only [stepLP]; split <;> simp_all
  | reget ng =>
    have := stepNG_frame s b ng
    simp only [stepLP]; split <;> simp_all
  | cool cd =>
    have := stepCD_frame s cd
    simp only [stepLP]; split <;> simp_all
  | _ => simp only [stepLP] <;> (repeat' split) <;> simp [dbgInUse] <;> (repeat' split) <;> simp

theorem stepPP_frame (cfg : Cfg) (p c : Nat) (s : Shared) (l : Locals) (b : Bool) (pp : PP) :
    (stepPP cfg p c s l b pp).1.cells = s.cells ∧ (stepPP cfg p c s l b pp).1.hist = s.hist := by
  cases pp with
  | get ng =>
    have := stepNG_frame s b ng
    simp only [stepPP]; split <;> simp_all
  | hload h ld =>
    have := stepLP_frame cfg c s l b ld
    simp only [stepPP]; split <;> simp_all
  | hinto h r gi =>
    have := stepGI_frame s gi
    simp only [stepPP]; split <;> simp_all
  | _ => simp only [stepPP] <;> (repeat' split) <;> simp [dbgInUse] <;> (repeat' split) <;> simp

/-- `Node::get` raises no fault — except the assertion at the end of `check_cooldown`, when the
    node it held for the check is not in the checking state any more (never, in a reachable state:
    `CheckInv`) -/
theorem stepNG_fault (s : Shared) (b : Bool) (ng : NG) :
    (stepNG s b ng).1.fault = s.fault ∨
      ((stepNG s b ng).1.fault = (s.setFault chkAssert).fault ∧
        ∃ n idle, ng = .cc2 n idle ∧ (s.nodes n).inUse ≠ Consts.nodeChecking) := by
  cases ng with
  | cc2 n idle =>
    simp only [stepNG]; split
    · left; simp [Shared.setNode]
    · rename_i h; right; exact ⟨rfl, n, idle, rfl, h⟩
  | _ => left; simp only [stepNG] <;> (repeat' split) <;> simp [Shared.setNode]

theorem stepCD_fault (s : Shared) (cd : CD) (hf : s.fault = none) :
    (stepCD s cd).1.fault = none ∨
    (stepCD s cd).1.fault = some (.panic "start_cooldown: assert_eq!(NODE_USED, in_use.swap(..))") := by
  cases cd <;> simp only [stepCD] <;> (try (left; simpa using hf))
  split
  · left; simpa using hf
  · right; rw [setFault_fault_of_none _ _ (by simpa using hf)]

/-- A projection of a node is kept by a write to another field. -/
theorem setNode_proj {β : Sort _} (π : Node → β) (s : Shared) (n m : Nat) (f : Node → Node)
    (hf : ∀ nd, π (f nd) = π nd) : π ((s.setNode n f).nodes m) = π (s.nodes m) := by
  by_cases hm : m = n
  · subst hm; rw [setNode_nodes_same, hf]
  · rw [setNode_nodes_other _ _ _ _ hm]

theorem setNode_nodes (s : Shared) (n m : Nat) (f : Node → Node) :
    (s.setNode n f).nodes m = if m = n then f (s.nodes n) else s.nodes m := by
  by_cases hm : m = n
  · subst hm; simp
  · simp [hm]

theorem setNode_fast (s : Shared) (n m : Nat) (f : Node → Node) (hf : ∀ nd, (f nd).fast = nd.fast) :
    ((s.setNode n f).nodes m).fast = (s.nodes m).fast := setNode_proj (·.fast) s n m f hf
theorem setNode_envelope (s : Shared) (n m : Nat) (f : Node → Node) (hf : ∀ nd, (f nd).envelope = nd.envelope) :
    ((s.setNode n f).nodes m).envelope = (s.nodes m).envelope := setNode_proj (·.envelope) s n m f hf

end M
