import ArcSwapModel.M.Step

/-!
# Every step is a sequence of primitive writes

Whatever a sub-machine does to the shared state, it does by a handful of primitive writes: raising the
fault flag, writing one node, one count operation, naming a node, moving `LIST_HEAD`, an allocation, a
write to a cell.  `Upds s s'` says that `s'` comes from `s` by such writes; every sub-machine step is one
(`stepNG_upds` … `stepRP_upds`).  A fact about the shared state alone that each primitive write keeps is
therefore kept by every step (`Upds.keeps`, `microStep_keeps`): it is proved against the eight kinds of write.
-/

namespace M

inductive Upd1 : Shared → Shared → Prop
  | fault (s f) : Upd1 s (s.setFault f)
  | node (s n f) : Upd1 s (s.setNode n f)
  | inc (s a) : Upd1 s (incObj s a).1
  | dec (s a) : Upd1 s (decObj s a).1
  | newNode (s) : Upd1 s { s with nNodes := s.nNodes + 1, nodes := upd s.nodes s.nNodes { spaceOffer := s.nNodes } }
  | head (s k) : Upd1 s { s with head := some k }
  | alloc (s v) : Upd1 s (alloc s v).1
  | write (s c p) : Upd1 s (s.writeCell c p)

inductive Upds : Shared → Shared → Prop
  | refl (s) : Upds s s
  | tail {s s1 s2} : Upds s s1 → Upd1 s1 s2 → Upds s s2

theorem Upds.keeps {P : Shared → Prop} (h1 : ∀ s s', Upd1 s s' → P s → P s') {s s' : Shared} (h : Upds s s') :
    P s → P s' := by
  induction h with
  | refl => exact id
  | tail _ hu ih => exact fun hp => h1 _ _ hu (ih hp)

theorem Upds.rel {R : Shared → Shared → Prop} (hr : ∀ s, R s s) (ht : ∀ {a b c}, R a b → R b c → R a c)
    (h1 : ∀ s s', Upd1 s s' → R s s') {s s' : Shared} (h : Upds s s') : R s s' := by
  induction h with
  | refl => exact hr _
  | tail _ hu ih => exact ht ih (h1 _ _ hu)

theorem Upd1.regs {s s' : Shared} (h : Upd1 s s') :
    s'.hreg = s.hreg ∧ s'.greg = s.greg ∧ s'.busy = s.busy ∧ s.nNodes ≤ s'.nNodes := by
  cases h <;> first | exact ⟨rfl, rfl, rfl, Nat.le_refl _⟩ | exact ⟨rfl, rfl, rfl, Nat.le_succ _⟩ | simp

theorem Upds.regs {s s' : Shared} (h : Upds s s') :
    s'.hreg = s.hreg ∧ s'.greg = s.greg ∧ s'.busy = s.busy ∧ s.nNodes ≤ s'.nNodes :=
  h.rel (R := fun s s' => s'.hreg = s.hreg ∧ s'.greg = s.greg ∧ s'.busy = s.busy ∧ s.nNodes ≤ s'.nNodes)
    (fun _ => ⟨rfl, rfl, rfl, Nat.le_refl _⟩)
    (fun a b => ⟨b.1.trans a.1, b.2.1.trans a.2.1, b.2.2.1.trans a.2.2.1, Nat.le_trans a.2.2.2 b.2.2.2⟩)
    (fun _ _ h1 => h1.regs)

theorem Upds.hreg {s s' : Shared} (h : Upds s s') : s'.hreg = s.hreg := h.regs.1
theorem Upds.greg {s s' : Shared} (h : Upds s s') : s'.greg = s.greg := h.regs.2.1
theorem Upds.busy_eq {s s' : Shared} (h : Upds s s') : s'.busy = s.busy := h.regs.2.2.1
theorem Upds.nNodes_le {s s' : Shared} (h : Upds s s') : s.nNodes ≤ s'.nNodes := h.regs.2.2.2

theorem Upds.one {s s' : Shared} (h : Upd1 s s') : Upds s s' := .tail (.refl s) h

theorem Upds.orFault {s x : Shared} (h : Upds s x) (c : Prop) [Decidable c] (f : Fault) :
    Upds s (if c then x else x.setFault f) := by
  split
  · exact h
  · exact .tail h (.fault _ _)

theorem Upds.dbg {s x : Shared} (h : Upds s x) (n : Nat) (site : String) : Upds s (dbgInUse x n site) :=
  h.orFault _ _

theorem stepNG_upds (s : Shared) (b : Bool) (ng : NG) : Upds s (stepNG s b ng).1 := by
  cases ng with
  | allocCas me h =>
    cases me with
    | some k => simp only [stepNG]; split <;> (try dsimp only) <;> first | exact .tail (.one (.node ..)) (.head ..) | exact .one (.node ..)
    | none =>
      simp only [stepNG]; split <;> (try dsimp only)
      · exact .tail (.tail (.one (.newNode s)) (.node ..)) (.head ..)
      · exact .tail (.one (.newNode s)) (.node ..)
  | _ => simp only [stepNG] <;> (repeat' split) <;> (try dsimp only) <;> first | exact .refl _ | exact .one (.node ..) | exact .one (.fault ..)

theorem stepCD_upds (s : Shared) (cd : CD) : Upds s (stepCD s cd).1 := by
  cases cd <;> simp only [stepCD] <;>
    first | exact .refl _ | exact .one (.node ..) | exact (Upds.one (.node ..)).orFault _ _

theorem stepGD_upds (s : Shared) (gd : GD) : Upds s (stepGD s gd).1 := by
  cases gd <;> simp only [stepGD] <;> (try split) <;> (try dsimp only) <;>
    first | exact .refl _ | exact .one (.node ..) | exact .one (.dec ..)

theorem stepGI_upds (s : Shared) (gi : GI) : Upds s (stepGI s gi).1 := by
  cases gi <;> simp only [stepGI] <;> (try split) <;> (try dsimp only) <;>
    first | exact .refl _ | exact .one (.node ..) | exact .one (.dec ..) | exact .one (.inc ..)

theorem stepLP_upds (cfg : Cfg) (c : Nat) (s : Shared) (l : Locals) (b : Bool) (lp : LP) :
    Upds s (stepLP cfg c s l b lp).1 := by
  cases lp with
  | get ng => rw [stepLP_get]; exact stepNG_upds s b ng
  | reget ng => rw [stepLP_reget]; exact stepNG_upds s b ng
  | cool cd => rw [stepLP_cool]; exact stepCD_upds s cd
  | _ =>
    simp only [stepLP] <;> (repeat' split) <;> (try dsimp only) <;>
      first | exact .refl _ | exact .one (.node ..) | exact .one (.fault ..) | exact .one (.inc ..) | exact .one (.dec ..) | exact (Upds.refl _).dbg _ _ | exact (Upds.one (.node ..)).orFault _ _ | exact .tail (.one (.node ..)) (.fault ..)

theorem stepPP_upds (cfg : Cfg) (p c : Nat) (s : Shared) (l : Locals) (b : Bool) (pp : PP) :
    Upds s (stepPP cfg p c s l b pp).1 := by
  cases pp with
  | get ng => rw [stepPP_get]; exact stepNG_upds s b ng
  | hload h ld => rw [stepPP_hload]; exact stepLP_upds cfg c s l b ld
  | hinto h r gi => rw [stepPP_hinto]; exact stepGI_upds s gi
  | _ =>
    simp only [stepPP] <;> (repeat' split) <;> (try dsimp only) <;>
      first | exact .refl _ | exact .one (.node ..) | exact .one (.fault ..) | exact .one (.inc ..) | exact .one (.dec ..) | exact (Upds.refl _).dbg _ _ | exact (Upds.refl _).orFault _ _ | exact .tail (.one (.node ..)) (.fault ..)

theorem stepCP_upds (cfg : Cfg) (c cur new : Nat) (s : Shared) (l : Locals) (b : Bool) (cp : CP) :
    Upds s (stepCP cfg c cur new s l b cp).1 := by
  cases cp with
  | load ld => rw [stepCP_load]; exact stepLP_upds cfg c s l b ld
  | pay old pp => rw [stepCP_pay]; exact stepPP_upds cfg old.ptr c s l b pp
  | dropOld gd => rw [stepCP_dropOld]; exact stepGD_upds s gd
  | _ =>
    simp only [stepCP] <;> (repeat' split) <;> (try dsimp only) <;>
      first | exact .refl _ | exact .one (.write ..) | exact .one (.fault ..) | exact .one (.dec ..)

theorem stepRP_upds (cfg : Cfg) (c : Nat) (s : Shared) (l : Locals) (b : Bool) (tries : Nat) (rp : RP) :
    Upds s (stepRP cfg c s l b tries rp).1 := by
  cases rp with
  | load ld => rw [stepRP_load]; exact stepLP_upds cfg c s l b ld
  | cas cur a cp => rw [stepRP_cas]; exact stepCP_upds cfg c cur.ptr a s l b cp
  | intoPrev cur prev gi => rw [stepRP_intoPrev]; exact stepGI_upds s gi
  | dropCur res gd => rw [stepRP_dropCur]; exact stepGD_upds s gd
  | dropCurLoop prev gd => rw [stepRP_dropCurLoop]; exact stepGD_upds s gd
  | attempt cur =>
    simp only [stepRP]; split <;> (try dsimp only)
    · exact .tail (.one (.fault ..)) (.alloc ..)
    · exact .one (.alloc ..)
  | done r => exact .refl _

theorem OpSt.core_upds (cfg : Cfg) (s : Shared) (l : Locals) (b : Bool) (op : OpSt) : Upds s (op.core cfg s l b) := by
  cases op <;> simp only [OpSt.core] <;>
    first | exact .refl _ | exact stepLP_upds .. | exact stepGI_upds .. | exact stepGD_upds .. | exact stepCD_upds .. | exact stepPP_upds .. | exact stepCP_upds .. | exact stepRP_upds .. | exact .one (.inc ..) | exact .one (.dec ..)

theorem CoreEq.refl (s : Shared) : CoreEq s s := ⟨rfl, rfl, rfl, rfl, rfl, rfl⟩

/-- starting an operation writes registers, apart from the allocation of `new` and the fault a
    dereference of a dead guard raises -/
theorem beginOp_upds (st : State) (t : Nat) (o : Op) : ∃ x, Upds st.sh x ∧ CoreEq x (beginOp st t o).1.sh := by
  cases o with
  | new h val =>
    simp only [beginOp]; split
    · exact ⟨_, .refl _, .refl _⟩
    · exact ⟨_, .one (.alloc st.sh val), ⟨rfl, rfl, rfl, rfl, rfl, rfl⟩⟩
  | gderef g =>
    simp only [beginOp]; split
    · exact ⟨_, .refl _, .refl _⟩
    · split
      · exact ⟨_, .one (.fault ..), .refl _⟩
      · exact ⟨_, .refl _, .refl _⟩
  | _ => simp only [beginOp] <;> (repeat' split) <;> exact ⟨_, .refl _, ⟨rfl, rfl, rfl, rfl, rfl, rfl⟩⟩

theorem microStep_upds (st : State) (t : Nat) (b : Bool) : ∃ x, Upds st.sh x ∧ CoreEq x (microStep st t b).1.sh := by
  by_cases hi : (st.th t).op = .idle
  · simp only [microStep, hi]; split
    · exact ⟨_, .refl _, .refl _⟩
    · rename_i txt o rest _
      exact beginOp_upds { st with th := upd st.th t { prog := rest, loc := (st.th t).loc } } t o
  · exact ⟨_, OpSt.core_upds .., microStep_core st t b hi⟩

theorem microStep_keeps {P : Shared → Prop} (h1 : ∀ s s', Upd1 s s' → P s → P s')
    (hc : ∀ x s', CoreEq x s' → P x → P s') (st : State) (t : Nat) (b : Bool) (h : P st.sh) :
    P (microStep st t b).1.sh := by
  obtain ⟨x, hu, he⟩ := microStep_upds st t b
  exact hc _ _ he (hu.keeps h1 h)

end M
