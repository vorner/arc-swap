import ArcSwapModel.M.Frame

/-!
# How the sub-machines nest, and what one micro-step does

`stepLP`, `stepPP`, `stepCP` and `stepRP` host other sub-machines (`stepLP (.get ng)` runs `Node::get`,
`stepPP (.hload h ld)` runs the helper's nested load, …).  The hosting states all have the same shape:
the shared state is the inner step's, and the host moves on (`…after…`) when the inner machine is done.
This file states that once per hosting state (`stepLP_get`, `stepPP_hload`, …), so that a fact about the
inner machine is carried outwards by rewriting.  It then says what a whole `microStep` does: to the part
of the shared state the protocol lives in (`microStep_core`: the hosted sub-machine's step), to the
stepping thread, the cells and `busy` (`microStep_next`), and when the thread is idle (`microStep_idle_cons`,
`microStep_idle_nil`, `beginOp_shape`).  Executions (`run`, `Reachable`) and induction over them come last.
-/

namespace M

@[simp] theorem dbgInUse_nodes (s : Shared) (n : Nat) (site : String) : (dbgInUse s n site).nodes = s.nodes := by
  unfold dbgInUse; split <;> simp
@[simp] theorem dbgInUse_nNodes (s : Shared) (n : Nat) (site : String) : (dbgInUse s n site).nNodes = s.nNodes := by
  unfold dbgInUse; split <;> simp
@[simp] theorem dbgInUse_head (s : Shared) (n : Nat) (site : String) : (dbgInUse s n site).head = s.head := by
  unfold dbgInUse; split <;> simp
@[simp] theorem dbgInUse_heap (s : Shared) (n : Nat) (site : String) : (dbgInUse s n site).heap = s.heap := by
  unfold dbgInUse; split <;> simp
@[simp] theorem dbgInUse_nextId (s : Shared) (n : Nat) (site : String) : (dbgInUse s n site).nextId = s.nextId := by
  unfold dbgInUse; split <;> simp

@[simp] theorem ite_setFault_nodes (x : Shared) (c : Prop) [Decidable c] (f : Fault) :
    (if c then x else x.setFault f).nodes = x.nodes := by split <;> simp
@[simp] theorem ite_setFault_nNodes (x : Shared) (c : Prop) [Decidable c] (f : Fault) :
    (if c then x else x.setFault f).nNodes = x.nNodes := by split <;> simp
@[simp] theorem ite_setFault_head (x : Shared) (c : Prop) [Decidable c] (f : Fault) :
    (if c then x else x.setFault f).head = x.head := by split <;> simp
@[simp] theorem ite_setFault_heap (x : Shared) (c : Prop) [Decidable c] (f : Fault) :
    (if c then x else x.setFault f).heap = x.heap := by split <;> simp
@[simp] theorem ite_setFault_cells (x : Shared) (c : Prop) [Decidable c] (f : Fault) :
    (if c then x else x.setFault f).cells = x.cells := by split <;> simp

/-! `Node::get` writes `in_use` and `next` and names a new node; `start_cooldown` writes `active_writers` and
`in_use`; a guard's drop or promotion writes one fast slot.  Every other projection of every node is kept. -/

theorem stepNG_proj {β : Sort _} (π : Node → β) (s : Shared) (b : Bool) (ng : NG)
    (hiu : ∀ nd v, π { nd with inUse := v } = π nd) (hnx : ∀ nd v, π { nd with next := v } = π nd)
    (hnew : π { spaceOffer := s.nNodes } = π (s.nodes s.nNodes)) (m : Nat) :
    π ((stepNG s b ng).1.nodes m) = π (s.nodes m) := by
  cases ng with
  | allocCas me h =>
    cases me with
    | some k => simp only [stepNG]; split <;> exact setNode_proj π _ _ _ _ (fun _ => hnx _ _)
    | none =>
      have e : π ((upd s.nodes s.nNodes { spaceOffer := s.nNodes }) m) = π (s.nodes m) := by
        by_cases hm : m = s.nNodes
        · subst hm; rw [upd_same, hnew]
        · rw [upd_other _ _ _ _ hm]
      simp only [stepNG]; split <;> exact (setNode_proj π _ _ _ _ (fun _ => hnx _ _)).trans e
  | _ =>
    simp only [stepNG] <;> (repeat' split) <;>
      first | rfl | exact setNode_proj π _ _ _ _ (fun _ => hiu _ _) | (rw [setFault_nodes])

theorem stepCD_proj {β : Sort _} (π : Node → β) (s : Shared) (cd : CD)
    (hiu : ∀ nd v, π { nd with inUse := v } = π nd) (hwr : ∀ nd v, π { nd with writers := v } = π nd) (m : Nat) :
    π ((stepCD s cd).1.nodes m) = π (s.nodes m) := by
  cases cd <;> simp only [stepCD, ite_setFault_nodes] <;>
    first | rfl | exact setNode_proj π _ _ _ _ (fun _ => hwr _ _) | exact setNode_proj π _ _ _ _ (fun _ => hiu _ _)

theorem stepGD_proj {β : Sort _} (π : Node → β) (s : Shared) (gd : GD)
    (hfast : ∀ nd v, π { nd with fast := v } = π nd) (m : Nat) :
    π ((stepGD s gd).1.nodes m) = π (s.nodes m) := by
  cases gd <;> simp only [stepGD] <;> (try split) <;>
    first | rfl | exact setNode_proj π _ _ _ _ (fun _ => hfast _ _) | (rw [decObj_nodes])

theorem stepGI_proj {β : Sort _} (π : Node → β) (s : Shared) (gi : GI)
    (hfast : ∀ nd v, π { nd with fast := v } = π nd) (m : Nat) :
    π ((stepGI s gi).1.nodes m) = π (s.nodes m) := by
  cases gi <;> simp only [stepGI] <;> (try split) <;>
    first | rfl | exact setNode_proj π _ _ _ _ (fun _ => hfast _ _) | (rw [decObj_nodes]) | (rw [incObj_nodes])

/-! `X.afterY` is the host's next state given the inner machine's next state. -/

def NG.locals (l : Locals) : NG → Locals
  | .done n => { l with node := some n }
  | _ => l

def LP.afterGet (cfg : Cfg) : NG → LP
  | .done _ => if cfg.useFast then .a1 else .nhDbg
  | ng => .get ng

def LP.afterReget : NG → LP
  | .done _ => .f1
  | ng => .reget ng

def LP.afterCool : CD → LP
  | .done => .reget .trav
  | cd => .cool cd

theorem stepLP_get (cfg : Cfg) (c : Nat) (s : Shared) (l : Locals) (b : Bool) (ng : NG) :
    stepLP cfg c s l b (.get ng) =
      ((stepNG s b ng).1, NG.locals l (stepNG s b ng).2.1, LP.afterGet cfg (stepNG s b ng).2.1, (stepNG s b ng).2.2) := by
  simp only [stepLP]; generalize stepNG s b ng = x; obtain ⟨s', ng', evs⟩ := x; cases ng' <;> rfl

theorem stepLP_reget (cfg : Cfg) (c : Nat) (s : Shared) (l : Locals) (b : Bool) (ng : NG) :
    stepLP cfg c s l b (.reget ng) =
      ((stepNG s b ng).1, NG.locals l (stepNG s b ng).2.1, LP.afterReget (stepNG s b ng).2.1, (stepNG s b ng).2.2) := by
  simp only [stepLP]; generalize stepNG s b ng = x; obtain ⟨s', ng', evs⟩ := x; cases ng' <;> rfl

theorem stepLP_cool (cfg : Cfg) (c : Nat) (s : Shared) (l : Locals) (b : Bool) (cd : CD) :
    stepLP cfg c s l b (.cool cd) = ((stepCD s cd).1, l, LP.afterCool (stepCD s cd).2.1, (stepCD s cd).2.2) := by
  simp only [stepLP]; generalize stepCD s cd = x; obtain ⟨s', cd', evs⟩ := x; cases cd' <;> rfl

def PP.afterGet (p : Nat) : NG → PP
  | .done _ => if p = 0 then .trav else .inc
  | ng => .get ng

/-- the helper's nested load has returned: `.into_inner()` of its guard, then on to the hand-over -/
def PP.afterLoad (h : HL) : LP → PP
  | .done r d => if GI.ofGuard { ptr := r, debt := d } = .done then .h4 h r
      else .hinto h r (GI.ofGuard { ptr := r, debt := d })
  | ld => .hload h ld

def PP.afterInto (h : HL) (r : Nat) : GI → PP
  | .done => .h4 h r
  | gi => .hinto h r gi

theorem stepPP_get (cfg : Cfg) (p c : Nat) (s : Shared) (l : Locals) (b : Bool) (ng : NG) :
    stepPP cfg p c s l b (.get ng) =
      ((stepNG s b ng).1, NG.locals l (stepNG s b ng).2.1, PP.afterGet p (stepNG s b ng).2.1, (stepNG s b ng).2.2) := by
  simp only [stepPP]; generalize stepNG s b ng = x; obtain ⟨s', ng', evs⟩ := x; cases ng' <;> rfl

theorem stepPP_hload (cfg : Cfg) (p c : Nat) (s : Shared) (l : Locals) (b : Bool) (h : HL) (ld : LP) :
    stepPP cfg p c s l b (.hload h ld) =
      ((stepLP cfg c s l b ld).1, (stepLP cfg c s l b ld).2.1, PP.afterLoad h (stepLP cfg c s l b ld).2.2.1,
        (stepLP cfg c s l b ld).2.2.2) := by
  simp only [stepPP]; generalize stepLP cfg c s l b ld = x; obtain ⟨s', l', ld', evs⟩ := x; cases ld' <;> rfl

theorem stepPP_hinto (cfg : Cfg) (p c : Nat) (s : Shared) (l : Locals) (b : Bool) (h : HL) (r : Nat) (gi : GI) :
    stepPP cfg p c s l b (.hinto h r gi) = ((stepGI s gi).1, l, PP.afterInto h r (stepGI s gi).2.1, (stepGI s gi).2.2) := by
  simp only [stepPP]; generalize stepGI s gi = x; obtain ⟨s', gi', evs⟩ := x; cases gi' <;> rfl

def CP.afterLoad (cur new : Nat) : LP → CP
  | .done p d => if p ≠ cur then (if new = 0 then .done { ptr := p, debt := d } else .dropNew { ptr := p, debt := d })
      else .cx { ptr := p, debt := d }
  | ld => .load ld

def CP.afterPay (old : Guard) : PP → CP
  | .done => if old.ptr = 0 then .done old else .decOld old
  | pp => .pay old pp

def CP.afterDropOld : GD → CP
  | .done => .load .start
  | gd => .dropOld gd

theorem stepCP_load (cfg : Cfg) (c cur new : Nat) (s : Shared) (l : Locals) (b : Bool) (ld : LP) :
    stepCP cfg c cur new s l b (.load ld) =
      ((stepLP cfg c s l b ld).1, (stepLP cfg c s l b ld).2.1, CP.afterLoad cur new (stepLP cfg c s l b ld).2.2.1,
        (stepLP cfg c s l b ld).2.2.2) := by
  simp only [stepCP]; generalize stepLP cfg c s l b ld = x; obtain ⟨s', l', ld', evs⟩ := x; cases ld' <;> rfl

theorem stepCP_pay (cfg : Cfg) (c cur new : Nat) (s : Shared) (l : Locals) (b : Bool) (old : Guard) (pp : PP) :
    stepCP cfg c cur new s l b (.pay old pp) =
      ((stepPP cfg old.ptr c s l b pp).1, (stepPP cfg old.ptr c s l b pp).2.1,
        CP.afterPay old (stepPP cfg old.ptr c s l b pp).2.2.1, (stepPP cfg old.ptr c s l b pp).2.2.2) := by
  simp only [stepCP]; generalize stepPP cfg old.ptr c s l b pp = x; obtain ⟨s', l', pp', evs⟩ := x; cases pp' <;> rfl

theorem stepCP_dropOld (cfg : Cfg) (c cur new : Nat) (s : Shared) (l : Locals) (b : Bool) (gd : GD) :
    stepCP cfg c cur new s l b (.dropOld gd) = ((stepGD s gd).1, l, CP.afterDropOld (stepGD s gd).2.1, (stepGD s gd).2.2) := by
  simp only [stepCP]; generalize stepGD s gd = x; obtain ⟨s', gd', evs⟩ := x; cases gd' <;> rfl

def RP.afterLoad : LP → RP
  | .done p d => .attempt { ptr := p, debt := d }
  | ld => .load ld

/-- `rcu`'s exchange has returned `prev`: done if it is what the closure was given, else once more -/
def RP.afterCas (cur : Guard) (a : Nat) : CP → RP
  | .done prev =>
    if prev.ptr = cur.ptr then
      if GI.ofGuard prev = .done then
        (if GD.ofGuard cur = .done then .done prev.ptr else .dropCur prev.ptr (GD.ofGuard cur))
      else .intoPrev cur prev (GI.ofGuard prev)
    else if GD.ofGuard cur = .done then .attempt prev else .dropCurLoop prev (GD.ofGuard cur)
  | cp => .cas cur a cp

def RP.afterIntoPrev (cur prev : Guard) : GI → RP
  | .done => if GD.ofGuard cur = .done then .done prev.ptr else .dropCur prev.ptr (GD.ofGuard cur)
  | gi => .intoPrev cur prev gi

def RP.afterDropCur (res : Nat) : GD → RP
  | .done => .done res
  | gd => .dropCur res gd

def RP.afterDropCurLoop (prev : Guard) : GD → RP
  | .done => .attempt prev
  | gd => .dropCurLoop prev gd

theorem stepRP_load (cfg : Cfg) (c : Nat) (s : Shared) (l : Locals) (b : Bool) (tries : Nat) (ld : LP) :
    stepRP cfg c s l b tries (.load ld) =
      ((stepLP cfg c s l b ld).1, (stepLP cfg c s l b ld).2.1, RP.afterLoad (stepLP cfg c s l b ld).2.2.1, tries,
        (stepLP cfg c s l b ld).2.2.2) := by
  simp only [stepRP]; generalize stepLP cfg c s l b ld = x; obtain ⟨s', l', ld', evs⟩ := x; cases ld' <;> rfl

theorem stepRP_cas (cfg : Cfg) (c : Nat) (s : Shared) (l : Locals) (b : Bool) (tries : Nat) (cur : Guard) (a : Nat)
    (cp : CP) :
    stepRP cfg c s l b tries (.cas cur a cp) =
      ((stepCP cfg c cur.ptr a s l b cp).1, (stepCP cfg c cur.ptr a s l b cp).2.1,
        RP.afterCas cur a (stepCP cfg c cur.ptr a s l b cp).2.2.1, tries, (stepCP cfg c cur.ptr a s l b cp).2.2.2) := by
  simp only [stepRP]; generalize stepCP cfg c cur.ptr a s l b cp = x; obtain ⟨s', l', cp', evs⟩ := x
  cases cp' <;> simp only [RP.afterCas] <;> (repeat' split) <;> rfl

theorem stepRP_intoPrev (cfg : Cfg) (c : Nat) (s : Shared) (l : Locals) (b : Bool) (tries : Nat) (cur prev : Guard)
    (gi : GI) :
    stepRP cfg c s l b tries (.intoPrev cur prev gi) =
      ((stepGI s gi).1, l, RP.afterIntoPrev cur prev (stepGI s gi).2.1, tries, (stepGI s gi).2.2) := by
  simp only [stepRP]; generalize stepGI s gi = x; obtain ⟨s', gi', evs⟩ := x; cases gi' <;> rfl

theorem stepRP_dropCur (cfg : Cfg) (c : Nat) (s : Shared) (l : Locals) (b : Bool) (tries res : Nat) (gd : GD) :
    stepRP cfg c s l b tries (.dropCur res gd) =
      ((stepGD s gd).1, l, RP.afterDropCur res (stepGD s gd).2.1, tries, (stepGD s gd).2.2) := by
  simp only [stepRP]; generalize stepGD s gd = x; obtain ⟨s', gd', evs⟩ := x; cases gd' <;> rfl

theorem stepRP_dropCurLoop (cfg : Cfg) (c : Nat) (s : Shared) (l : Locals) (b : Bool) (tries : Nat) (prev : Guard)
    (gd : GD) :
    stepRP cfg c s l b tries (.dropCurLoop prev gd) =
      ((stepGD s gd).1, l, RP.afterDropCurLoop prev (stepGD s gd).2.1, tries, (stepGD s gd).2.2) := by
  simp only [stepRP]; generalize stepGD s gd = x; obtain ⟨s', gd', evs⟩ := x; cases gd' <;> rfl

/-- The part of the shared state the protocol lives in: everything but the registers of the programs
    (`hreg`, `greg`), the `busy` counters, the cells and their ghost history. -/
structure CoreEq (x s' : Shared) : Prop where
  nodes : s'.nodes = x.nodes
  nNodes : s'.nNodes = x.nNodes
  head : s'.head = x.head
  heap : s'.heap = x.heap
  fault : s'.fault = x.fault
  nextId : s'.nextId = x.nextId

def OpSt.core (cfg : Cfg) (s : Shared) (l : Locals) (b : Bool) : OpSt → Shared
  | .load c _ ld | .loadFull c _ ld => (stepLP cfg c s l b ld).1
  | .loadFullInto _ _ _ gi | .ginto _ _ gi => (stepGI s gi).1
  | .dropg gd => (stepGD s gd).1
  | .exitCool cd => (stepCD s cd).1
  | .swapPay c _ old _ pp => (stepPP cfg old c s l b pp).1
  | .cinto c _ p pp | .dropc c p pp => (stepPP cfg p c s l b pp).1
  | .cas c _ _ curPtr new _ cp => (stepCP cfg c curPtr new s l b cp).1
  | .rcu c _ tries rp => (stepRP cfg c s l b tries rp).1
  | .cloneh _ _ a => (incObj s a).1
  | .droph a | .swapDrop _ a | .dropcDec _ a => (decObj s a).1
  | .swapSw .. | .idle | .finished => s

theorem beginOp_shape (st : State) (t : Nat) (o : Op) :
    ∃ sh' th' ct', (beginOp st t o).1 = ⟨st.cfg, sh', upd st.th t th', ct'⟩ ∧ sh'.nodes = st.sh.nodes ∧
      sh'.nNodes = st.sh.nNodes ∧ sh'.head = st.sh.head ∧ th'.loc.node = (st.th t).loc.node := by
  cases o <;> simp only [beginOp] <;> (repeat' split) <;>
    exact ⟨_, _, _, rfl, by simp [alloc], by simp [alloc], by simp [alloc], rfl⟩

theorem beginOp_th_other (st : State) (t : Nat) (o : Op) {t' : Nat} (h : t' ≠ t) :
    (beginOp st t o).1.th t' = st.th t' := by
  obtain ⟨_, _, _, e, _⟩ := beginOp_shape st t o; rw [e]; exact upd_other _ _ _ _ h

@[simp] theorem beginOp_nodes (st : State) (t : Nat) (o : Op) : (beginOp st t o).1.sh.nodes = st.sh.nodes := by
  obtain ⟨_, _, _, e, h, _⟩ := beginOp_shape st t o; rw [e]; exact h
@[simp] theorem beginOp_nNodes (st : State) (t : Nat) (o : Op) : (beginOp st t o).1.sh.nNodes = st.sh.nNodes := by
  obtain ⟨_, _, _, e, _, h, _⟩ := beginOp_shape st t o; rw [e]; exact h
@[simp] theorem beginOp_head (st : State) (t : Nat) (o : Op) : (beginOp st t o).1.sh.head = st.sh.head := by
  obtain ⟨_, _, _, e, _, _, h, _⟩ := beginOp_shape st t o; rw [e]; exact h
@[simp] theorem beginOp_cfg (st : State) (t : Nat) (o : Op) : (beginOp st t o).1.cfg = st.cfg := by
  obtain ⟨_, _, _, e, _⟩ := beginOp_shape st t o; rw [e]
@[simp] theorem beginOp_node (st : State) (t : Nat) (o : Op) :
    ((beginOp st t o).1.th t).loc.node = (st.th t).loc.node := by
  obtain ⟨_, _, _, e, _, _, _, h⟩ := beginOp_shape st t o; rw [e]; simp only [upd_same]; exact h

def OpSt.fresh : OpSt → Prop
  | .idle | .cloneh _ _ _ | .droph _ | .dropg _ | .ginto _ _ _ | .swapSw _ _ _ _ => True
  | .load _ _ ld | .loadFull _ _ ld => ld = .start
  | .cas _ _ _ _ _ _ cp => cp = .load .start
  | .rcu _ _ _ rp => rp = .load .start
  | .cinto _ _ _ pp | .dropc _ _ pp => pp = .start
  | _ => False

theorem beginOp_fresh (st : State) (t : Nat) (o : Op) : ((beginOp st t o).1.th t).op.fresh := by
  cases o <;> simp only [beginOp] <;> (repeat' split) <;> simp only [upd_same] <;> first | trivial | rfl

theorem microStep_th_other (st : State) (t : Nat) (b : Bool) {t' : Nat} (h : t' ≠ t) :
    (microStep st t b).1.th t' = st.th t' := by
  cases hop : (st.th t).op <;> simp only [microStep, hop] <;> (repeat' split) <;>
    first | rfl | (rw [beginOp_th_other _ _ _ h]; simp [upd, h]) | simp [upd, h]

theorem microStep_core (st : State) (t : Nat) (b : Bool) (hni : (st.th t).op ≠ .idle) :
    CoreEq ((st.th t).op.core st.cfg st.sh (st.th t).loc b) (microStep st t b).1.sh := by
  cases hop : (st.th t).op <;> first | exact absurd hop hni | skip
  all_goals simp only [microStep, hop, OpSt.core]
  all_goals (repeat' split)
  all_goals first | exact ⟨rfl, rfl, rfl, rfl, rfl, rfl⟩ | (simp only [*]; exact ⟨rfl, rfl, rfl, rfl, rfl, rfl⟩) | (subst_vars; simp only [*]; exact ⟨rfl, rfl, rfl, rfl, rfl, rfl⟩)

def OpSt.cell? : OpSt → Option Nat
  | .load c _ _ | .loadFull c _ _ | .loadFullInto c _ _ _ | .swapSw c _ _ _ | .swapPay c _ _ _ _ | .swapDrop c _
  | .cas c _ _ _ _ _ _ | .rcu c _ _ _ | .cinto c _ _ _ | .dropc c _ _ | .dropcDec c _ => some c
  | _ => none

/-- `into_inner` or `drop` of a container in progress -/
def OpSt.cons : OpSt → Bool
  | .cinto .. | .dropc .. | .dropcDec .. => true
  | _ => false

/-- The operation state and the locals of a thread after its step from the operation state `op`: the
    hosted sub-machine has stepped, and an operation whose sub-machine is done has ended or moved on
    (not meant for `.idle`, where the step is `beginOp`). -/
def OpSt.next (cfg : Cfg) (s : Shared) (l : Locals) (b : Bool) : OpSt → OpSt × Locals
  | .exitCool cd =>
    match (stepCD s cd).2.1 with
    | .done => (.finished, { l with node := none })
    | cd' => (.exitCool cd', l)
  | .load c g ld =>
    (match (stepLP cfg c s l b ld).2.2.1 with
      | .done _ _ => .idle
      | ld' => .load c g ld', (stepLP cfg c s l b ld).2.1)
  | .loadFull c h ld =>
    (match (stepLP cfg c s l b ld).2.2.1 with
      | .done p d =>
        if GI.ofGuard { ptr := p, debt := d } = .done then .idle
        else .loadFullInto c h p (GI.ofGuard { ptr := p, debt := d })
      | ld' => .loadFull c h ld', (stepLP cfg c s l b ld).2.1)
  | .loadFullInto c h p gi => (match (stepGI s gi).2.1 with | .done => .idle | gi' => .loadFullInto c h p gi', l)
  | .dropg gd => (match (stepGD s gd).2.1 with | .done => .idle | gd' => .dropg gd', l)
  | .ginto h p gi => (match (stepGI s gi).2.1 with | .done => .idle | gi' => .ginto h p gi', l)
  | .swapSw c a out isStore =>
    (match s.cells c with | some old => .swapPay c out old isStore .start | none => .swapSw c a out isStore, l)
  | .swapPay c out old isStore pp =>
    (match (stepPP cfg old c s l b pp).2.2.1 with
      | .done => if isStore then (if old = 0 then .idle else .swapDrop c old) else .idle
      | pp' => .swapPay c out old isStore pp', (stepPP cfg old c s l b pp).2.1)
  | .cas c cur keep curPtr new g cp =>
    (match (stepCP cfg c curPtr new s l b cp).2.2.1 with
      | .done _ => .idle
      | cp' => .cas c cur keep curPtr new g cp', (stepCP cfg c curPtr new s l b cp).2.1)
  | .rcu c out tries rp =>
    (match (stepRP cfg c s l b tries rp).2.2.1 with
      | .done _ => .idle
      | rp' => .rcu c out (stepRP cfg c s l b tries rp).2.2.2.1 rp', (stepRP cfg c s l b tries rp).2.1)
  | .cinto c h p pp =>
    (match (stepPP cfg p c s l b pp).2.2.1 with | .done => .idle | pp' => .cinto c h p pp',
      (stepPP cfg p c s l b pp).2.1)
  | .dropc c p pp =>
    (match (stepPP cfg p c s l b pp).2.2.1 with
      | .done => if p = 0 then .idle else .dropcDec c p
      | pp' => .dropc c p pp', (stepPP cfg p c s l b pp).2.1)
  | .finished => (.finished, l)
  | _ => (.idle, l)

/-- The cells after the step: `swap`'s exchange writes one, the cell of a destroyed container is emptied when
    the operation ends, and otherwise they are as the hosted sub-machine leaves them. -/
def OpSt.cellsNext (cfg : Cfg) (s : Shared) (l : Locals) (b : Bool) (op : OpSt) : Nat → Option Nat :=
  match op with
  | .swapSw c a _ _ => if s.cells c = none then s.cells else upd s.cells c (some a)
  | .cinto c _ p pp =>
    if (stepPP cfg p c s l b pp).2.2.1 = .done then upd (stepPP cfg p c s l b pp).1.cells c none
    else (stepPP cfg p c s l b pp).1.cells
  | .dropc c p pp =>
    if (stepPP cfg p c s l b pp).2.2.1 = .done ∧ p = 0 then upd (stepPP cfg p c s l b pp).1.cells c none
    else (stepPP cfg p c s l b pp).1.cells
  | .dropcDec c _ => upd s.cells c none
  | op => (op.core cfg s l b).cells

/-- `busy` after the step: an operation on a container that does not destroy it stops being counted when it
    ends. -/
def OpSt.busyNext (cfg : Cfg) (s : Shared) (l : Locals) (b : Bool) (op : OpSt) : Nat → Nat :=
  match (op.next cfg s l b).1, op.cell?, op.cons with
  | .idle, some c, false => upd (op.core cfg s l b).busy c ((op.core cfg s l b).busy c - 1)
  | _, _, _ => (op.core cfg s l b).busy

theorem microStep_next (st : State) (t : Nat) (b : Bool) (hni : (st.th t).op ≠ .idle) :
    ((microStep st t b).1.th t).op = ((st.th t).op.next st.cfg st.sh (st.th t).loc b).1 ∧
      ((microStep st t b).1.th t).loc = ((st.th t).op.next st.cfg st.sh (st.th t).loc b).2 ∧
      (microStep st t b).1.sh.cells = (st.th t).op.cellsNext st.cfg st.sh (st.th t).loc b ∧
      (microStep st t b).1.sh.busy = (st.th t).op.busyNext st.cfg st.sh (st.th t).loc b ∧
      (microStep st t b).1.ctaken = st.ctaken := by
  cases hop : (st.th t).op <;> first | exact absurd hop hni | skip
  all_goals simp only [microStep, hop, OpSt.next, OpSt.cellsNext, OpSt.busyNext, OpSt.core, OpSt.cell?, OpSt.cons]
  case load c g ld =>
    generalize stepLP st.cfg c st.sh (st.th t).loc b ld = r; obtain ⟨s', l', ld', evs⟩ := r
    split <;> rename_i heq <;> cases heq <;> simp only [upd_same, and_self]
  case loadFull c g ld =>
    generalize stepLP st.cfg c st.sh (st.th t).loc b ld = r; obtain ⟨s', l', ld', evs⟩ := r
    split <;> rename_i heq <;> cases heq
    · dsimp only; split <;> simp only [*, upd_same, and_self]
    · simp only [upd_same, and_self]
  case loadFullInto c h p gi | ginto h p gi =>
    generalize stepGI st.sh gi = r; obtain ⟨s', gi', evs⟩ := r
    split <;> rename_i heq <;> cases heq <;> simp only [upd_same, and_self]
  case dropg gd =>
    generalize stepGD st.sh gd = r; obtain ⟨s', gd', evs⟩ := r
    split <;> rename_i heq <;> cases heq <;> simp only [upd_same, and_self]
  case exitCool cd =>
    generalize stepCD st.sh cd = r; obtain ⟨s', cd', evs⟩ := r
    split <;> rename_i heq <;> cases heq <;> simp only [upd_same, and_self]
  case swapPay c out old isStore pp =>
    generalize stepPP st.cfg old c st.sh (st.th t).loc b pp = r; obtain ⟨s', l', pp', evs⟩ := r
    split <;> rename_i heq <;> cases heq
    · cases isStore <;> simp only [Bool.false_eq_true, ↓reduceIte, upd_same, and_self]
      split <;> simp only [*, upd_same, and_self]
    · simp only [upd_same, and_self]
  case cinto c h p pp =>
    generalize stepPP st.cfg p c st.sh (st.th t).loc b pp = r; obtain ⟨s', l', pp', evs⟩ := r
    split <;> rename_i hne heq <;> cases heq
    · simp only [upd_same, ↓reduceIte, and_self]
    · simp only [upd_same, if_neg hne, and_self]
  case dropc c p pp =>
    generalize stepPP st.cfg p c st.sh (st.th t).loc b pp = r; obtain ⟨s', l', pp', evs⟩ := r
    split <;> rename_i hne heq <;> cases heq
    · dsimp only; split <;> simp only [*, upd_same, true_and, ↓reduceIte, and_self]
    · simp only [upd_same, if_neg (fun h : pp' = .done ∧ p = 0 => hne h.1), and_self]
  case cas c cur keep curPtr new g cp =>
    generalize stepCP st.cfg c curPtr new st.sh (st.th t).loc b cp = r; obtain ⟨s', l', cp', evs⟩ := r
    split <;> rename_i heq <;> cases heq
    · split <;> simp only [upd_same, and_self]
    · simp only [upd_same, and_self]
  case rcu c out tries rp =>
    generalize stepRP st.cfg c st.sh (st.th t).loc b tries rp = r; obtain ⟨s', l', rp', tries', evs⟩ := r
    split <;> rename_i heq <;> cases heq <;> simp only [upd_same, and_self]
  case swapSw c a out isStore =>
    cases st.sh.cells c
    · exact ⟨hop, rfl, rfl, rfl, rfl⟩
    · simp only [upd_same, reduceCtorEq, ↓reduceIte, Shared.writeCell, and_self]
  all_goals simp only [upd_same, decObj_cells, and_self]

theorem microStep_idle_cons (st : State) (t : Nat) (b : Bool) {txt : String} {o : Op} {rest : List (String × Op)}
    (hop : (st.th t).op = .idle) (hp : (st.th t).prog = (txt, o) :: rest) :
    (microStep st t b).1 = (beginOp { st with th := upd st.th t { st.th t with prog := rest } } t o).1 := by
  simp only [microStep, hop, hp]

/-- thread exit: the thread-local node is handed back -/
theorem microStep_idle_nil (st : State) (t : Nat) (b : Bool) (hop : (st.th t).op = .idle) (hp : (st.th t).prog = []) :
    (microStep st t b).1 = { st with th := upd st.th t { st.th t with op :=
      match (st.th t).loc.node with | some n => .exitCool (.res n) | none => .finished } } := by
  simp only [microStep, hop, hp]; rfl

/-- initial state: any configuration and any programs; nothing allocated, no thread has a node -/
def State.initial (cfg : Cfg) (progs : Nat → List (String × Op)) : State :=
  { cfg := cfg, th := fun t => { prog := progs t } }

def run (st : State) : List (Nat × Bool) → State
  | [] => st
  | (t, b) :: rest => run (microStep st t b).1 rest

/-- every state of every execution: any number of threads, any programs, any schedule, any
    spurious compare-exchange failures, any wrap modulus -/
def Reachable (st : State) : Prop :=
  ∃ cfg progs sched, st = run (State.initial cfg progs) sched

theorem run_append (st : State) (s1 s2 : List (Nat × Bool)) : run st (s1 ++ s2) = run (run st s1) s2 := by
  induction s1 generalizing st with
  | nil => rfl
  | cons x rest ih => obtain ⟨t, b⟩ := x; simp only [List.cons_append, run]; exact ih _

theorem run_snoc (st : State) (s : List (Nat × Bool)) (t : Nat) (b : Bool) :
    run st (s ++ [(t, b)]) = (microStep (run st s) t b).1 := by rw [run_append]; rfl

theorem Reachable.step {st : State} (h : Reachable st) (t : Nat) (b : Bool) : Reachable (microStep st t b).1 := by
  obtain ⟨cfg, progs, sched, rfl⟩ := h
  exact ⟨cfg, progs, sched ++ [(t, b)], (run_snoc _ _ _ _).symm⟩

theorem Reachable.induct {P : State → Prop} (h0 : ∀ cfg progs, P (State.initial cfg progs))
    (hs : ∀ st t b, Reachable st → P st → P (microStep st t b).1) {st : State} (h : Reachable st) : P st := by
  obtain ⟨cfg, progs, sched, rfl⟩ := h
  have key : ∀ sched st, Reachable st → P st → P (run st sched) := by
    intro sched
    induction sched with
    | nil => exact fun _ _ h => h
    | cons x rest ih => exact fun st hr h => ih _ (hr.step x.1 x.2) (hs st x.1 x.2 hr h)
  exact key sched _ ⟨cfg, progs, [], rfl⟩ (h0 cfg progs)

theorem list_snoc_induction {α : Type} (P : List α → Prop) (h0 : P [])
    (hs : ∀ pre x, P pre → P (pre ++ [x])) : ∀ l, P l := by
  have key : ∀ l : List α, P l.reverse := by
    intro l
    induction l with
    | nil => exact h0
    | cons x l ih => rw [List.reverse_cons]; exact hs _ x ih
  intro l
  have := key l.reverse
  rwa [List.reverse_reverse] at this

end M
