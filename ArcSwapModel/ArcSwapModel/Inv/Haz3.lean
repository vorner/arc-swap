import ArcSwapModel.Inv.Haz2

/-!
# Where a walk is, relative to a slot

`PP.ahead L n i pp`: slot `i` of node `n` is still ahead of a walk at `pp` over the list `L` —
the walk has not reached the list yet, or is at `n` and has not attempted slot `i`, or is at a node
before `n`.  One step of the walk keeps a slot ahead unless the step is the attempt on that slot
(`ahead_keep`).
-/

namespace M
open Consts

/-! ## A walk past its start has a node -/

def PP.beforeNode : PP → Bool
  | .start | .get _ => true
  | _ => false

/-- the thread's node, once set by `LocalNode::with`, stays set for the whole load (also across
    the move to another node at the wrap) -/
theorem stepLP_node (cfg : Cfg) (c : Nat) (s : Shared) (l : Locals) (b : Bool) (lp : LP)
    (h : l.node.isSome = true) : (stepLP cfg c s l b lp).2.1.node.isSome = true := by
  cases lp with
  | get ng => rw [stepLP_get]; generalize (stepNG s b ng).2.1 = x; cases x <;> first | exact h | rfl
  | reget ng => rw [stepLP_reget]; generalize (stepNG s b ng).2.1 = x; cases x <;> first | exact h | rfl
  | cool cd => rw [stepLP_cool]; exact h
  | _ => simp only [stepLP] <;> (repeat' split) <;> exact h

theorem stepPP_node (cfg : Cfg) (p c : Nat) (s : Shared) (l : Locals) (b : Bool) (pp : PP)
    (h : pp.beforeNode = false → l.node.isSome = true) :
    (stepPP cfg p c s l b pp).2.2.1.beforeNode = false → (stepPP cfg p c s l b pp).2.1.node.isSome = true := by
  cases pp with
  | start =>
    simp only [stepPP]; split
    · intro h'; cases h'
    · rename_i n hn; intro _; rw [hn]; rfl
  | get ng => rw [stepPP_get]; generalize (stepNG s b ng).2.1 = ng'; cases ng' <;> intro h' <;> first | cases h' | rfl
  | hload x ld => rw [stepPP_hload]; exact fun _ => stepLP_node cfg c s l b ld (h rfl)
  | _ => intro _; simp only [stepPP]; (repeat' split) <;> exact h rfl

/-- a thread that is walking the list, past the start of the walk, has a node -/
def WalkNode (st : State) : Prop :=
  ∀ t a pp, (st.th t).op.walk? = some (a, pp) → pp.beforeNode = false → (st.th t).loc.node.isSome = true

/-! ## Ahead of a walk -/

/-- `n` comes after `m` on the list -/
def After (L : List Nat) (m n : Nat) : Prop := ∃ L1 L2, L = L1 ++ m :: L2 ∧ n ∈ L2

theorem After.prepend {L : List Nat} {m n : Nat} (h : After L m n) (pre : List Nat) : After (pre ++ L) m n := by
  obtain ⟨L1, L2, e, hn⟩ := h
  exact ⟨pre ++ L1, L2, by rw [e, List.append_assoc], hn⟩

/-- the walk has not loaded the head of the list yet -/
def PP.beforeList : PP → Bool
  | .start | .get _ | .inc | .trav => true
  | _ => false

/-- slot `i` of node `n` is still ahead of the walk -/
def PP.ahead (L : List Nat) (n i : Nat) (pp : PP) : Prop :=
  pp.beforeList = true ∨ ∃ m j, pp.pos = some (m, j) ∧ ((n = m ∧ j ≤ i) ∨ After L m n)

theorem PP.ahead.prepend {L : List Nat} {n i : Nat} {pp : PP} (h : pp.ahead L n i) (pre : List Nat) :
    pp.ahead (pre ++ L) n i :=
  h.imp id (fun ⟨m, j, hp, hq⟩ => ⟨m, j, hp, hq.imp id (fun x => x.prepend pre)⟩)

theorem PP.ahead_start (L : List Nat) (n i : Nat) : PP.start.ahead L n i := Or.inl rfl

theorem chain_after_next {next : Nat → Option Nat} {hd : Option Nat} {L : List Nat} (h : chainFrom next hd L)
    {m n : Nat} (ha : After L m n) :
    ∃ m', next m = some m' ∧ (n = m' ∨ After L m' n) := by
  obtain ⟨L1, L2, rfl, hn⟩ := ha
  induction L1 generalizing hd with
  | nil =>
    cases hd with
    | none => exact h.elim
    | some x =>
      obtain ⟨rfl, _, h3⟩ := h
      cases L2 with
      | nil => cases hn
      | cons m' L3 =>
        cases hq : next x with
        | none => rw [hq] at h3; exact h3.elim
        | some y =>
          rw [hq] at h3
          obtain ⟨rfl, _, _⟩ := h3
          exact ⟨y, rfl, (List.mem_cons.mp hn).imp id (fun e => ⟨[x], L3, rfl, e⟩)⟩
  | cons x L1 ih =>
    cases hd with
    | none => exact h.elim
    | some y =>
      obtain ⟨m', h1, h2⟩ := ih h.2.2
      exact ⟨m', h1, h2.imp id (fun e => e.prepend [x])⟩

/-- **one step of a walk keeps a slot ahead, unless it is the attempt on that slot** (the fast slots and the
    helping slot, `i = slotCnt`) -/
theorem ahead_keep (cfg : Cfg) (p c : Nat) (s : Shared) (l : Locals) (b : Bool) (pp : PP) (L : List Nat)
    (hc : chainFrom (nextOf s) s.head L) (n i : Nat) (hn : n ∈ L) (hi : i ≤ slotCnt)
    (hnode : pp.beforeNode = false → l.node.isSome = true) (h : pp.ahead L n i) :
    (stepPP cfg p c s l b pp).2.2.1.ahead L n i ∨ pp = .slot n i := by
  rcases h with h | ⟨m, j, hpos, hrel⟩
  · -- the walk has not reached the list
    cases pp with
    | start => left; left; simp only [stepPP]; (repeat' split) <;> rfl
    | get ng => left; left; simp only [stepPP]; (repeat' split) <;> rfl
    | inc => left; left; simp only [stepPP]; rfl
    | trav =>
      left
      simp only [stepPP]
      cases hh : s.head with
      | none =>
        rw [hh] at hc
        cases L with
        | nil => cases hn
        | cons x L => exact hc.elim
      | some x =>
        rw [hh] at hc
        cases L with
        | nil => exact hc.elim
        | cons y L2 =>
          obtain ⟨rfl, _, _⟩ := hc
          right
          refine ⟨x, 0, rfl, ?_⟩
          rcases List.mem_cons.mp hn with e | e
          · exact Or.inl ⟨e, Nat.zero_le _⟩
          · exact Or.inr ⟨[], L2, rfl, e⟩
    | _ => cases h
  · -- the walk is at node `m`
    have hbn : pp.beforeNode = false := by cases pp <;> first | rfl | cases hpos
    rcases stepPP_pos_cases cfg p c s l b pp with e | ⟨m0, j0, rfl, e⟩ | ⟨m0, j0, rfl, hj, e⟩ | ⟨rfl, _⟩ |
        ⟨m0, rfl, e⟩ | ⟨_, _, hn0, _⟩
    · exact Or.inl (Or.inr ⟨m, j, by rw [e, hpos], hrel⟩)
    · cases hpos
      rcases hrel with ⟨rfl, hji⟩ | haft
      · by_cases ei : j = i
        · subst ei; exact Or.inr rfl
        · rcases e with e | ⟨hj, e⟩
          · exact Or.inl (Or.inr ⟨n, j + 1, e, Or.inl ⟨rfl, by omega⟩⟩)
          · omega
      · rcases e with e | ⟨_, e⟩ <;> exact Or.inl (Or.inr ⟨m, _, e, Or.inr haft⟩)
    · cases hpos
      rcases hrel with ⟨_, hji⟩ | haft
      · omega
      · exact Or.inl (Or.inr ⟨m, _, e, Or.inr haft⟩)
    · cases hpos
    · cases hpos
      rcases hrel with ⟨_, hji⟩ | haft
      · omega
      · obtain ⟨m', hnx, hor⟩ := chain_after_next hc haft
        rw [show (s.nodes m).next = some m' from hnx] at e
        exact Or.inl (Or.inr ⟨m', 0, e, hor.imp (fun e' => ⟨e', Nat.zero_le _⟩) id⟩)
    · rw [hn0] at hnode; cases hnode hbn

theorem ahead_step (cfg : Cfg) (p c : Nat) (s : Shared) (l : Locals) (b : Bool) (pp : PP) (L : List Nat)
    (hc : chainFrom (nextOf s) s.head L) (n i : Nat) (hn : n ∈ L) (hi : i < slotCnt)
    (hnode : pp.beforeNode = false → l.node.isSome = true) (h : pp.ahead L n i) :
    (stepPP cfg p c s l b pp).2.2.1.ahead L n i ∨ pp = .slot n i :=
  ahead_keep cfg p c s l b pp L hc n i hn (Nat.le_of_lt hi) hnode h

end M
