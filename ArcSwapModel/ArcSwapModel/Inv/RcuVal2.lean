import ArcSwapModel.Inv.RcuVal

/-!
# `RcuVal2` holds along every execution

Between the closure and the exchange two objects must keep their content: the one the closure was given
and the one it allocated.  Both are counted for as long as the `rcu` holds them (`rcu_cur_counted`,
`rcu_new_counted`), and a counted address is not handed out by the allocator.
-/

namespace M
open Consts

theorem lowestFree_go_ge (heap : Nat → Obj) : ∀ fuel k, k ≤ lowestFree.go heap k fuel := by
  intro fuel
  induction fuel with
  | zero => exact fun k => Nat.le_refl k
  | succ f ih =>
    intro k
    simp only [lowestFree.go]
    split
    · exact Nat.le_trans (Nat.le_succ k) (ih (k + 1))
    · exact Nat.le_refl k

theorem alloc_ne_zero (s : Shared) (v : Nat) : (alloc s v).2.1 ≠ 0 := by
  have := lowestFree_go_ge s.heap 4096 1
  simp only [alloc, lowestFree]; omega

/-- the object an `rcu` has allocated and not yet installed is counted: the operation owns it -/
theorem rcu_new_counted (K N T : Nat) (hK : 0 < K) (cfg : Cfg) (progs : Nat → List (String × Op))
    (sched : List (Nat × Bool)) (he : EnvRun0 K N T (State.initial cfg progs) sched)
    (hf : (run (State.initial cfg progs) sched).sh.fault = none)
    (t c out tries : Nat) (cur : Guard) (a : Nat) (cp : CP) (ha : a ≠ 0)
    (hop : ((run (State.initial cfg progs) sched).th t).op = .rcu c out tries (.cas cur a cp))
    (hpre : cp.preWrite = true) :
    1 ≤ ((run (State.initial cfg progs) sched).sh.heap a).cnt := by
  have htT := (idleBeyond_run sched he (fun _ _ => rfl)).lt (t := t) (by rw [hop]; exact fun e => by cases e)
  refine unit_surplus_counted K N T hK cfg progs sched he hf a ha t htT ?_
  rw [hop]
  have hg := Guard.claims_len cur a
  simp only [OpSt.claims, RP.claims, uOp, uRP, List.length_append]
  cases cp with
  | load ld =>
    have := LP.claims_len ld ((run (State.initial cfg progs) sched).th t).loc a
    simp only [CP.claims, uCP, u, ↓reduceIte]; omega
  | cx old =>
    have := Guard.claims_len old a
    simp only [CP.claims, uCP, u, ↓reduceIte]; omega
  | dropOld gd =>
    have := GD.claims_len gd a
    simp only [CP.claims, uCP, u, ↓reduceIte]; omega
  | _ => cases hpre

theorem CP.holds_of_unc {cp : CP} {l : Locals} {n i a : Nat} (hn : l.node = some n) (h : Unc cp.lp? a i) :
    cp.holds n i a l := by
  rcases h with h | h
  · exact CP.holds_of_lp h (LP.holds_of_unc hn (Or.inl rfl))
  · exact CP.holds_of_lp h (LP.holds_of_unc hn (Or.inr rfl))

/-- **A guard that an operation holds keeps its object alive**: this is the case `thread_held_alive` asks
    for.  An owning guard does it by its unit of the count: the operation's other claims are covered by
    its other units (`hlen`).  A borrowing guard does it by its claim on its slot; where a load of the
    same operation has that slot unconfirmed for the same pointer, the operation claims the slot twice
    (`hunc`). -/
theorem held_guard_case {K : Nat} {op : OpSt} {l : Locals} {g : Guard} (hok : g.ok K)
    (hmem : ∀ x, x ∈ g.claims g.ptr → x ∈ op.claims g.ptr l)
    (hlen : (op.claims g.ptr l).length + uG g g.ptr ≤ uOp op g.ptr + (g.claims g.ptr).length)
    (hunc : ∀ n i, l.node = some n → Unc op.lp? g.ptr i → g.debt = some (n, i) → 2 ≤ cnt2 (op.claims g.ptr l) n i) :
    (op.claims g.ptr l).length + 1 ≤ uOp op g.ptr ∨
      ∃ n i, n < K ∧ i < slotCnt ∧ (n, i) ∈ op.claims g.ptr l ∧
        (l.node = some n → Unc op.lp? g.ptr i → 2 ≤ cnt2 (op.claims g.ptr l) n i) := by
  cases hd : g.debt with
  | none =>
    simp only [Guard.claims, hd, uG, u, ↓reduceIte, List.length_nil] at hlen
    exact .inl hlen
  | some ni =>
    obtain ⟨n, i⟩ := ni
    obtain ⟨hnK, hiS⟩ := hok n i hd
    exact .inr ⟨n, i, hnK, hiS, hmem _ (Guard.claims_of_holds ⟨rfl, hd⟩), fun hn hu => hunc n i hn hu hd⟩

theorem cnt2_guard_cp {g : Guard} {cp : CP} {l : Locals} {n i : Nat} (hn : l.node = some n)
    (hu : Unc cp.lp? g.ptr i) (hd : g.debt = some (n, i)) :
    2 ≤ cnt2 (g.claims g.ptr) n i + cnt2 (cp.claims g.ptr l) n i := by
  have c1 := cnt2_pos (Guard.claims_of_holds (g := g) (a := g.ptr) ⟨rfl, hd⟩)
  have c2 := cnt2_pos (CP.claims_of_holds (CP.holds_of_unc hn hu))
  omega

/-- the object an `rcu` gave to its closure stays counted until the exchange: the guard `cur` -/
theorem rcu_cur_counted (K N T : Nat) (hK : 0 < K) (cfg : Cfg) (progs : Nat → List (String × Op))
    (sched : List (Nat × Bool)) (he : EnvRun0 K N T (State.initial cfg progs) sched)
    (hf : (run (State.initial cfg progs) sched).sh.fault = none)
    (t c out tries : Nat) (rp : RP) (cur : Guard) (hp : cur.ptr ≠ 0)
    (hop : ((run (State.initial cfg progs) sched).th t).op = .rcu c out tries rp)
    (hrp : rp = .attempt cur ∨ ∃ a cp, rp = .cas cur a cp) :
    1 ≤ ((run (State.initial cfg progs) sched).sh.heap cur.ptr).cnt := by
  have hok := (Wf.run0 hK (Wf.initial K cfg progs) sched he).thL t
  rw [hop] at hok
  refine (thread_held_alive K N T hK cfg progs sched he hf cur.ptr hp t
    ((idleBeyond_run sched he (fun _ _ => rfl)).lt (by rw [hop]; exact fun e => by cases e)) ?_).1
  rw [hop]
  rcases hrp with rfl | ⟨a, cp, rfl⟩
  · exact held_guard_case hok (fun _ hx => hx) (Nat.le_of_eq (Nat.add_comm _ _))
      (fun n i _ hu => by rcases hu with hu | hu <;> cases hu)
  · refine held_guard_case hok.1 (fun _ hx => List.mem_append_left _ hx) ?_ (fun n i hn hu hd => ?_)
    · have := CP.claims_len a cp ((run (State.initial cfg progs) sched).th t).loc cur.ptr
      simp only [OpSt.claims, RP.claims, uOp, uRP, List.length_append]; omega
    · rw [OpSt.claims, RP.claims, cnt2_append]; exact cnt2_guard_cp hn hu hd

/-- the invariant, with the allocated address not null -/
def RcuVal2 (st : State) : Prop :=
  ∀ t c out tries cur a cp, (st.th t).op = .rcu c out tries (.cas cur a cp) → cp.preWrite = true →
    a ≠ 0 ∧ (st.sh.heap a).val = valOf st.sh cur.ptr + 1

theorem stepCP_preWrite (cfg : Cfg) (c cur new : Nat) (s : Shared) (l : Locals) (b : Bool) (cp : CP)
    (h : (stepCP cfg c cur new s l b cp).2.2.1.preWrite = true) : cp.preWrite = true := by
  cases cp with
  | load _ | cx _ | dropOld _ => rfl
  | pay old pp => simp only [stepCP] at h; (repeat' split at h) <;> cases h
  | dropNew old | decOld old | done old => simp only [stepCP] at h; cases h

/-- **`RcuVal2` along every execution** that satisfies the ledger's assumptions and ends without a
    fault: at each step the allocated object and the object given to the closure are counted, so the
    allocator does not hand their addresses out -/
theorem rcuVal_run (K N T : Nat) (hK : 0 < K) (cfg : Cfg) (progs : Nat → List (String × Op)) :
    ∀ sched : List (Nat × Bool), EnvRun0 K N T (State.initial cfg progs) sched →
      (run (State.initial cfg progs) sched).sh.fault = none → RcuVal2 (run (State.initial cfg progs) sched) := by
  refine EnvRun0.induct_noFault (fun t c out tries cur a cp hop => by cases hop) ?_
  intro pre t b hepre hfpre _ hok _ hI
  have hnew := rcu_new_counted K N T hK cfg progs pre hepre hfpre
  have hcur := rcu_cur_counted K N T hK cfg progs pre hepre hfpre
  have hroom := hok.room
  generalize run (State.initial cfg progs) pre = st at *
  intro w c out tries cur a cp' hop hpre
  by_cases e : w = t
  · subst e
    rcases microStep_rcu_cas st w b c out tries cur a cp' hop with
      ⟨tries0, h0, _, ha, hv, hoth⟩ | ⟨cp, h0, hcp, hheap⟩
    · -- the closure has just run: what `cur` denotes is counted, the address the allocator hands out is not
      have hne : cur.ptr ≠ 0 → cur.ptr ≠ a := fun hp e' => by
        have := hcur w c out tries0 _ cur hp h0 (.inl rfl)
        have := hroom 0
        rw [← ha, ← e'] at this; omega
      exact ⟨ha ▸ alloc_ne_zero _ _,
        hv.trans (congrArg (· + 1) (valOf_congr fun hp => congrArg Obj.val (hoth _ (hne hp))))⟩
    · obtain ⟨ha, hv⟩ := hI w c out tries cur a cp h0 (stepCP_preWrite _ _ _ _ _ _ _ _ (hcp ▸ hpre))
      refine ⟨ha, ?_⟩
      rw [hheap, (stepCP_same st.cfg c cur.ptr a st.sh (st.th w).loc b cp a).2, hv]
      exact congrArg (· + 1) (valOf_congr fun _ => by
        rw [hheap]; exact (stepCP_same st.cfg c cur.ptr a st.sh (st.th w).loc b cp cur.ptr).2)
  · -- another thread's step: the two objects are counted, so they keep their content
    rw [microStep_th_other st t b e] at hop
    obtain ⟨ha, hv⟩ := hI w c out tries cur a cp' hop hpre
    refine ⟨ha, ?_⟩
    rw [(counted_keeps_identity st t b a hroom (hnew w c out tries cur a cp' ha hop hpre)).2, hv]
    exact congrArg (· + 1) (valOf_congr fun hp =>
      (counted_keeps_identity st t b _ hroom (hcur w c out tries _ cur hp hop (.inr ⟨a, cp', rfl⟩))).2)

/-- **`rcu`'s exchange adds one**: at the step at which an `rcu` (closure `|v| v + 1`) exchanges
    the pointer — the container holds the address the closure was given — the container afterwards
    holds the allocated object, whose content is the content of the object replaced plus one; and
    the replaced object is the one the closure saw (it has been counted, hence not re-allocated,
    ever since).  Along every execution that satisfies the ledger's assumptions and has raised no
    fault. -/
theorem rcu_exchange_adds_one (K N T : Nat) (hK : 0 < K) (cfg : Cfg) (progs : Nat → List (String × Op))
    (sched : List (Nat × Bool)) (he : EnvRun0 K N T (State.initial cfg progs) sched)
    (hf : (run (State.initial cfg progs) sched).sh.fault = none)
    (t c out tries : Nat) (cur : Guard) (a : Nat) (old : Guard)
    (hop : ((run (State.initial cfg progs) sched).th t).op = .rcu c out tries (.cas cur a (.cx old)))
    (hq : (run (State.initial cfg progs) sched).sh.cells c = some cur.ptr) :
    (microStep (run (State.initial cfg progs) sched) t false).1.sh.cells c = some a ∧
      valOf (microStep (run (State.initial cfg progs) sched) t false).1.sh a =
        valOf (run (State.initial cfg progs) sched).sh cur.ptr + 1 := by
  obtain ⟨ha, hv⟩ := rcuVal_run K N T hK cfg progs sched he hf t c out tries cur a (.cx old) hop rfl
  generalize run (State.initial cfg progs) sched = st at *
  have h1 : (microStep st t false).1.sh = st.sh.writeCell c a := by
    simp only [microStep, hop, stepRP, stepCP, hq, Bool.not_false, Bool.true_and, decide_true, ↓reduceIte]
  rw [h1]
  exact ⟨upd_same _ _ _, by rw [valOf, if_neg ha]; exact hv⟩

end M
