import ArcSwapModel.M.Upd

/-!
# Node ownership: per-thread bookkeeping is never shared (C11), `start_cooldown`'s assertion (C13)

The first part is about every step, not about ownership: seen from the node list, a step of a thread is a
step of `Node::get`, a step of `start_cooldown`, or a step that writes no `in_use` word and no `next`
pointer, names no node and leaves `LIST_HEAD` and the thread's node alone (`microStep_nodeStep`).  The
invariants about the list (here, `ListInv`, `Check`, `Linked`) are proved against `stepNG` and `stepCD`
and carried to `microStep` by this one fact.

What a thread owns (`ownsT`) is the node it may write debts and generations into: the node in its `LocalNode`
(unless it has just sent it to cooldown), or the node it has allocated and is linking into the
list.  A step changes the `in_use` words and the stepping thread's ownership in one of five ways: not
at all, by releasing a node nobody owns from cooldown, by claiming a node, by allocating one, by sending
the owned node to cooldown (`OwnStep` groups them in three); the invariant `OwnInv` (an owned node is
`USED`; no two threads own the same node; owned nodes exist) is preserved by each of them.
-/

namespace M
open Consts

-- Unfolding one of these evaluates a lookup in the generated syntax tree; the proofs need `Consts.node_states_distinct`
-- and `Consts.node_checking_distinct` only.
attribute [local irreducible] Consts.slotCnt Consts.genStep Consts.nodeUsed Consts.nodeUnused Consts.nodeCooldown Consts.nodeChecking

theorem CoreEq.trans {a b c : Shared} (h : CoreEq a b) (h' : CoreEq b c) : CoreEq a c :=
  ⟨h'.nodes.trans h.nodes, h'.nNodes.trans h.nNodes, h'.head.trans h.head, h'.heap.trans h.heap,
    h'.fault.trans h.fault, h'.nextId.trans h.nextId⟩

@[simp] theorem writeCell_nodes (s : Shared) (c p : Nat) : (s.writeCell c p).nodes = s.nodes := rfl
@[simp] theorem writeCell_nNodes (s : Shared) (c p : Nat) : (s.writeCell c p).nNodes = s.nNodes := rfl

def USame (s s' : Shared) : Prop := ∀ m, (s'.nodes m).inUse = (s.nodes m).inUse

theorem USame.of_eq {s s' : Shared} (h : s'.nodes = s.nodes) : USame s s' := fun m => by rw [h]
theorem USame.refl (s : Shared) : USame s s := fun _ => rfl
theorem USame.trans {s s' s'' : Shared} (h1 : USame s s') (h2 : USame s' s'') : USame s s'' :=
  fun m => (h2 m).trans (h1 m)
theorem USame.setNode (s : Shared) (n : Nat) (f : Node → Node) (hf : ∀ nd, (f nd).inUse = nd.inUse) :
    USame s (s.setNode n f) := fun m => setNode_proj (·.inUse) s n m f hf
theorem USame.setFault (s : Shared) (f : Fault) : USame s (s.setFault f) := .of_eq (setFault_nodes s f)
theorem USame.incObj (s : Shared) (a : Nat) : USame s (incObj s a).1 := .of_eq (incObj_nodes s a)
theorem USame.decObj (s : Shared) (a : Nat) : USame s (decObj s a).1 := .of_eq (decObj_nodes s a)
theorem USame.alloc (s : Shared) (v : Nat) : USame s (alloc s v).1 := fun _ => rfl
theorem USame.writeCell (s : Shared) (c p : Nat) : USame s (s.writeCell c p) := fun _ => rfl
theorem USame.ite_setFault_of {s x : Shared} (h : USame s x) (c : Prop) [Decidable c] (f : Fault) :
    USame s (if c then x else x.setFault f) := by
  split
  · exact h
  · exact h.trans (USame.setFault x _)
theorem USame.ite_setFault (s : Shared) (c : Prop) [Decidable c] (f : Fault) :
    USame s (if c then s else s.setFault f) := (USame.refl s).ite_setFault_of c f
theorem USame.dbg (s : Shared) (n : Nat) (site : String) : USame s (dbgInUse s n site) := USame.ite_setFault s _ _

def LSame (s s' : Shared) : Prop :=
  s'.head = s.head ∧ (∀ m, (s'.nodes m).next = (s.nodes m).next) ∧ s'.nNodes = s.nNodes

theorem LSame.of_eq {s s' : Shared} (hh : s'.head = s.head) (hn : s'.nodes = s.nodes) (hk : s'.nNodes = s.nNodes) :
    LSame s s' := ⟨hh, fun m => by rw [hn], hk⟩
theorem LSame.refl (s : Shared) : LSame s s := ⟨rfl, fun _ => rfl, rfl⟩
theorem LSame.trans {s s' s'' : Shared} (h1 : LSame s s') (h2 : LSame s' s'') : LSame s s'' :=
  ⟨h2.1.trans h1.1, fun m => (h2.2.1 m).trans (h1.2.1 m), h2.2.2.trans h1.2.2⟩
theorem LSame.setNode (s : Shared) (n : Nat) (f : Node → Node) (hf : ∀ nd, (f nd).next = nd.next) :
    LSame s (s.setNode n f) := ⟨rfl, fun m => setNode_proj (·.next) s n m f hf, rfl⟩
theorem LSame.setFault (s : Shared) (f : Fault) : LSame s (s.setFault f) :=
  .of_eq (setFault_head s f) (setFault_nodes s f) (setFault_nNodes s f)
theorem LSame.incObj (s : Shared) (a : Nat) : LSame s (incObj s a).1 :=
  .of_eq (incObj_head s a) (incObj_nodes s a) (incObj_nNodes s a)
theorem LSame.decObj (s : Shared) (a : Nat) : LSame s (decObj s a).1 :=
  .of_eq (decObj_head s a) (decObj_nodes s a) (decObj_nNodes s a)
theorem LSame.alloc (s : Shared) (v : Nat) : LSame s (alloc s v).1 := ⟨rfl, fun _ => rfl, rfl⟩
theorem LSame.writeCell (s : Shared) (c p : Nat) : LSame s (s.writeCell c p) := ⟨rfl, fun _ => rfl, rfl⟩
theorem LSame.ite_setFault_of {s x : Shared} (h : LSame s x) (c : Prop) [Decidable c] (f : Fault) :
    LSame s (if c then x else x.setFault f) := by
  split
  · exact h
  · exact h.trans (LSame.setFault x _)
theorem LSame.ite_setFault (s : Shared) (c : Prop) [Decidable c] (f : Fault) :
    LSame s (if c then s else s.setFault f) := (LSame.refl s).ite_setFault_of c f
theorem LSame.dbg (s : Shared) (n : Nat) (site : String) : LSame s (dbgInUse s n site) := LSame.ite_setFault s _ _

theorem stepCD_lsame (s : Shared) (cd : CD) : LSame s (stepCD s cd).1 := by
  cases cd <;> simp only [stepCD] <;>
    first | exact .refl _ | exact .setNode _ _ _ (fun _ => rfl)
          | (refine .ite_setFault_of ?_ _ _; exact .setNode _ _ _ (fun _ => rfl))

structure Quiet (s s' : Shared) : Prop where
  inUse : USame s s'
  list : LSame s s'

theorem Quiet.refl (s : Shared) : Quiet s s := ⟨.refl s, .refl s⟩
theorem Quiet.trans {s s' s'' : Shared} (h1 : Quiet s s') (h2 : Quiet s' s'') : Quiet s s'' :=
  ⟨h1.inUse.trans h2.inUse, h1.list.trans h2.list⟩
theorem Quiet.setNode (s : Shared) (n : Nat) (f : Node → Node) (hu : ∀ nd, (f nd).inUse = nd.inUse)
    (hx : ∀ nd, (f nd).next = nd.next) : Quiet s (s.setNode n f) := ⟨.setNode s n f hu, .setNode s n f hx⟩
theorem Quiet.setFault (s : Shared) (f : Fault) : Quiet s (s.setFault f) := ⟨.setFault s f, .setFault s f⟩
theorem Quiet.incObj (s : Shared) (a : Nat) : Quiet s (incObj s a).1 := ⟨.incObj s a, .incObj s a⟩
theorem Quiet.decObj (s : Shared) (a : Nat) : Quiet s (decObj s a).1 := ⟨.decObj s a, .decObj s a⟩
theorem Quiet.alloc (s : Shared) (v : Nat) : Quiet s (alloc s v).1 := ⟨.alloc s v, .alloc s v⟩
theorem Quiet.writeCell (s : Shared) (c p : Nat) : Quiet s (s.writeCell c p) := ⟨.writeCell s c p, .writeCell s c p⟩
theorem Quiet.ite_setFault_of {s x : Shared} (h : Quiet s x) (c : Prop) [Decidable c] (f : Fault) :
    Quiet s (if c then x else x.setFault f) := ⟨h.inUse.ite_setFault_of c f, h.list.ite_setFault_of c f⟩
theorem Quiet.dbg (s : Shared) (n : Nat) (site : String) : Quiet s (dbgInUse s n site) := ⟨.dbg s n site, .dbg s n site⟩
theorem Quiet.core {s x s' : Shared} (h : Quiet s x) (hc : CoreEq x s') : Quiet s s' :=
  h.trans ⟨.of_eq hc.nodes, .of_eq hc.head hc.nodes hc.nNodes⟩

theorem stepGD_quiet (s : Shared) (gd : GD) : Quiet s (stepGD s gd).1 := by
  cases gd <;> simp only [stepGD] <;> (try split) <;> (try dsimp only) <;>
    first | exact .refl _ | exact .setNode _ _ _ (fun _ => rfl) (fun _ => rfl) | exact .decObj _ _
theorem stepGI_quiet (s : Shared) (gi : GI) : Quiet s (stepGI s gi).1 := by
  cases gi <;> simp only [stepGI] <;> (try split) <;> (try dsimp only) <;>
    first | exact .refl _ | exact .setNode _ _ _ (fun _ => rfl) (fun _ => rfl) | exact .decObj _ _ | exact .incObj _ _

/-- `Node::get` names a node and points it at the head it read: the new node is born `USED` -/
theorem newNode_inUse (s : Shared) (h : Option Nat) (m : Nat) :
    ((({ s with nNodes := s.nNodes + 1, nodes := upd s.nodes s.nNodes { spaceOffer := s.nNodes } } : Shared).setNode
      s.nNodes fun nd => { nd with next := h }).nodes m).inUse = if m = s.nNodes then nodeUsed else (s.nodes m).inUse := by
  refine (setNode_proj (·.inUse) _ _ m (fun nd => { nd with next := h }) (fun _ => rfl)).trans ?_
  show (upd s.nodes s.nNodes _ m).inUse = _
  split
  · rename_i e; rw [e, upd_same]
  · rename_i e; rw [upd_other _ _ _ _ e]

inductive NodeOp where
  | get (ng : NG)
  | cool (cd : CD)
  | none

def NodeOp.ofNG : NG → NodeOp
  | .done _ => .none
  | ng => .get ng

def LP.nodeOp : LP → NodeOp
  | .get ng | .reget ng => .get ng
  | .cool cd => .cool cd
  | _ => .none
def PP.nodeOp : PP → NodeOp
  | .get ng => .get ng
  | .hload _ ld => ld.nodeOp
  | _ => .none
def CP.nodeOp : CP → NodeOp
  | .load ld => ld.nodeOp
  | .pay _ pp => pp.nodeOp
  | _ => .none
def RP.nodeOp : RP → NodeOp
  | .load ld => ld.nodeOp
  | .cas _ _ cp => cp.nodeOp
  | _ => .none
def OpSt.nodeOp : OpSt → NodeOp
  | .load _ _ ld | .loadFull _ _ ld => ld.nodeOp
  | .swapPay _ _ _ _ pp | .cinto _ _ _ pp | .dropc _ _ pp => pp.nodeOp
  | .cas _ _ _ _ _ _ cp => cp.nodeOp
  | .rcu _ _ _ rp => rp.nodeOp
  | .exitCool cd => .cool cd
  | _ => .none

def NodeOp.via {α : Type} (f : NG → Option α) : NodeOp → Option α
  | .get ng => f ng
  | _ => Option.none

inductive NodeStep (s : Shared) (l : Locals) (b : Bool) (o : NodeOp) (s' : Shared) (l' : Locals) (o' : NodeOp) : Prop
  | get (ng : NG) (ho : o = .get ng) (hs : CoreEq (stepNG s b ng).1 s')
      (hl : l'.node = (NG.locals l (stepNG s b ng).2.1).node) (ho' : o' = .ofNG (stepNG s b ng).2.1)
  | cool (cd : CD) (ho : o = .cool cd) (hs : CoreEq (stepCD s cd).1 s')
      (ho' : (o' = .cool (stepCD s cd).2.1 ∧ l'.node = l.node) ∨
        ((stepCD s cd).2.1 = .done ∧ ((o' = .get .trav ∧ l'.node = l.node) ∨ (o' = .none ∧ l'.node = none))))
  | other (ho : o = .none) (hq : Quiet s s') (hl : l'.node = l.node)
      (ho' : o' = .none ∨ (o' = .get .trav ∧ l.node = none) ∨ ∃ n, o' = .cool (.res n) ∧ l.node = some n)

theorem NodeStep.transfer {s : Shared} {l : Locals} {b : Bool} {o : NodeOp} {s1 s2 : Shared} {l1 l2 : Locals}
    {o1 o2 : NodeOp} (h : NodeStep s l b o s1 l1 o1) (hs : CoreEq s1 s2) (hl : l2.node = l1.node) (ho : o2 = o1) :
    NodeStep s l b o s2 l2 o2 := by
  subst ho
  cases h with
  | get ng ho hs' hl' ho' => exact .get ng ho (hs'.trans hs) (hl.trans hl') ho'
  | cool cd ho hs' ho' => exact .cool cd ho (hs'.trans hs) (by rw [hl]; exact ho')
  | other ho hq hl' ho' => exact .other ho (hq.core hs) (hl.trans hl') ho'

theorem LP.afterGet_nodeOp (cfg : Cfg) (ng : NG) : (LP.afterGet cfg ng).nodeOp = .ofNG ng := by
  cases ng <;> first | rfl | (simp only [LP.afterGet]; split <;> rfl)
theorem LP.afterReget_nodeOp (ng : NG) : (LP.afterReget ng).nodeOp = .ofNG ng := by cases ng <;> rfl

theorem stepLP_nodeStep (cfg : Cfg) (c : Nat) (s : Shared) (l : Locals) (b : Bool) (lp : LP) :
    NodeStep s l b lp.nodeOp (stepLP cfg c s l b lp).1 (stepLP cfg c s l b lp).2.1 (stepLP cfg c s l b lp).2.2.1.nodeOp := by
  cases lp with
  | get ng => rw [stepLP_get]; exact .get ng rfl (.refl _) rfl (LP.afterGet_nodeOp ..)
  | reget ng => rw [stepLP_reget]; exact .get ng rfl (.refl _) rfl (LP.afterReget_nodeOp ..)
  | cool cd =>
    rw [stepLP_cool]; refine .cool cd rfl (.refl _) ?_
    cases (stepCD s cd).2.1 <;> first | exact .inl ⟨rfl, rfl⟩ | exact .inr ⟨rfl, .inl ⟨rfl, rfl⟩⟩
  | _ =>
    -- per branch: the step is quiet, and where the load goes next: on, into `Node::get` or into `start_cooldown`
    simp only [stepLP] <;> (repeat' split) <;> (try dsimp only) <;> refine .other rfl ?_ rfl ?_ <;>
      first
        | exact .inl rfl
        | exact .inr (.inl ⟨rfl, by assumption⟩)
        | exact .inr (.inr ⟨_, rfl, by assumption⟩)
        | exact .refl _
        | exact .setNode _ _ _ (fun _ => rfl) (fun _ => rfl)
        | exact .setFault _ _
        | exact .incObj _ _
        | exact .decObj _ _
        | exact .dbg _ _ _
        | (refine .ite_setFault_of ?_ _ _; exact .setNode _ _ _ (fun _ => rfl) (fun _ => rfl))
        | (refine .trans ?_ (.setFault _ _); exact .setNode _ _ _ (fun _ => rfl) (fun _ => rfl))

theorem PP.afterGet_nodeOp (p : Nat) (ng : NG) : (PP.afterGet p ng).nodeOp = .ofNG ng := by
  cases ng <;> first | rfl | (simp only [PP.afterGet]; split <;> rfl)
theorem PP.afterLoad_nodeOp (h : HL) (ld : LP) : (PP.afterLoad h ld).nodeOp = ld.nodeOp := by
  cases ld <;> first | rfl | (simp only [PP.afterLoad]; split <;> rfl)
theorem PP.afterInto_nodeOp (h : HL) (r : Nat) (gi : GI) : (PP.afterInto h r gi).nodeOp = .none := by cases gi <;> rfl
theorem PP.dispatch_nodeOp (h : HL) : (PP.dispatch h).nodeOp = .none := by simp only [PP.dispatch]; split <;> rfl
theorem PP.nextSlot_nodeOp (n j : Nat) : (PP.nextSlot n j).nodeOp = .none := by simp only [PP.nextSlot]; split <;> rfl

theorem stepPP_nodeStep (cfg : Cfg) (p c : Nat) (s : Shared) (l : Locals) (b : Bool) (pp : PP) :
    NodeStep s l b pp.nodeOp (stepPP cfg p c s l b pp).1 (stepPP cfg p c s l b pp).2.1
      (stepPP cfg p c s l b pp).2.2.1.nodeOp := by
  cases pp with
  | get ng => rw [stepPP_get]; exact .get ng rfl (.refl _) rfl (PP.afterGet_nodeOp ..)
  | hload h ld => rw [stepPP_hload, PP.afterLoad_nodeOp]; exact stepLP_nodeStep cfg c s l b ld
  | hinto h r gi =>
    rw [stepPP_hinto]; exact .other rfl (stepGI_quiet s gi) rfl (.inl (PP.afterInto_nodeOp ..))
  | _ =>
    simp only [stepPP] <;> (repeat' split) <;> (try dsimp only) <;> refine .other rfl ?_ rfl ?_ <;>
      first
        | exact .inl rfl
        | exact .inl (PP.dispatch_nodeOp _)
        | exact .inl (PP.nextSlot_nodeOp ..)
        | exact .inr (.inl ⟨rfl, by assumption⟩)
        | exact .refl _
        | exact .setNode _ _ _ (fun _ => rfl) (fun _ => rfl)
        | exact .setFault _ _
        | exact .incObj _ _
        | exact .decObj _ _
        | exact .dbg _ _ _
        | exact .ite_setFault_of (.refl _) _ _
        | (refine .trans ?_ (.setFault _ _); exact .setNode _ _ _ (fun _ => rfl) (fun _ => rfl))

theorem CP.afterLoad_nodeOp (cur new : Nat) (ld : LP) : (CP.afterLoad cur new ld).nodeOp = ld.nodeOp := by
  cases ld <;> first | rfl | (simp only [CP.afterLoad]; (repeat' split) <;> rfl)
theorem CP.afterPay_nodeOp (old : Guard) (pp : PP) : (CP.afterPay old pp).nodeOp = pp.nodeOp := by
  cases pp <;> first | rfl | (simp only [CP.afterPay]; split <;> rfl)
theorem CP.afterDropOld_nodeOp (gd : GD) : (CP.afterDropOld gd).nodeOp = .none := by cases gd <;> rfl

theorem stepCP_nodeStep (cfg : Cfg) (c cur new : Nat) (s : Shared) (l : Locals) (b : Bool) (cp : CP) :
    NodeStep s l b cp.nodeOp (stepCP cfg c cur new s l b cp).1 (stepCP cfg c cur new s l b cp).2.1
      (stepCP cfg c cur new s l b cp).2.2.1.nodeOp := by
  cases cp with
  | load ld => rw [stepCP_load, CP.afterLoad_nodeOp]; exact stepLP_nodeStep cfg c s l b ld
  | pay old pp => rw [stepCP_pay, CP.afterPay_nodeOp]; exact stepPP_nodeStep cfg old.ptr c s l b pp
  | dropOld gd =>
    rw [stepCP_dropOld]; exact .other rfl (stepGD_quiet s gd) rfl (.inl (CP.afterDropOld_nodeOp ..))
  | _ =>
    simp only [stepCP] <;> (repeat' split) <;> (try dsimp only) <;> refine .other rfl ?_ rfl (.inl rfl) <;>
      first | exact .refl _ | exact .setFault _ _ | exact .decObj _ _ | exact .writeCell _ _ _

theorem RP.afterLoad_nodeOp (ld : LP) : (RP.afterLoad ld).nodeOp = ld.nodeOp := by cases ld <;> rfl
theorem RP.afterCas_nodeOp (cur : Guard) (a : Nat) (cp : CP) : (RP.afterCas cur a cp).nodeOp = cp.nodeOp := by
  cases cp <;> first | rfl | (simp only [RP.afterCas]; (repeat' split) <;> rfl)
theorem RP.afterIntoPrev_nodeOp (cur prev : Guard) (gi : GI) : (RP.afterIntoPrev cur prev gi).nodeOp = .none := by
  cases gi <;> first | rfl | (simp only [RP.afterIntoPrev]; split <;> rfl)
theorem RP.afterDropCur_nodeOp (res : Nat) (gd : GD) : (RP.afterDropCur res gd).nodeOp = .none := by cases gd <;> rfl
theorem RP.afterDropCurLoop_nodeOp (prev : Guard) (gd : GD) : (RP.afterDropCurLoop prev gd).nodeOp = .none := by
  cases gd <;> rfl

theorem stepRP_nodeStep (cfg : Cfg) (c : Nat) (s : Shared) (l : Locals) (b : Bool) (tries : Nat) (rp : RP) :
    NodeStep s l b rp.nodeOp (stepRP cfg c s l b tries rp).1 (stepRP cfg c s l b tries rp).2.1
      (stepRP cfg c s l b tries rp).2.2.1.nodeOp := by
  cases rp with
  | load ld => rw [stepRP_load, RP.afterLoad_nodeOp]; exact stepLP_nodeStep cfg c s l b ld
  | cas cur a cp => rw [stepRP_cas, RP.afterCas_nodeOp]; exact stepCP_nodeStep cfg c cur.ptr a s l b cp
  | intoPrev cur prev gi =>
    rw [stepRP_intoPrev]
    exact .other rfl (stepGI_quiet s gi) rfl (.inl (RP.afterIntoPrev_nodeOp ..))
  | dropCur res gd =>
    rw [stepRP_dropCur]; exact .other rfl (stepGD_quiet s gd) rfl (.inl (RP.afterDropCur_nodeOp ..))
  | dropCurLoop prev gd =>
    rw [stepRP_dropCurLoop]
    exact .other rfl (stepGD_quiet s gd) rfl (.inl (RP.afterDropCurLoop_nodeOp ..))
  | attempt cur =>
    simp only [stepRP]; refine .other rfl ?_ rfl (.inl rfl) <;> split <;>
      first | exact .alloc _ _ | exact .trans (.setFault _ _) (.alloc _ _)
  | done r => exact .other rfl (.refl _) rfl (.inl rfl)

theorem OpSt.fresh.nodeOp {op : OpSt} (h : op.fresh) : op.nodeOp = .none := by
  cases op <;> first | rfl | (cases h <;> rfl)

theorem beginOp_nodeOp (st : State) (t : Nat) (o : Op) : ((beginOp st t o).1.th t).op.nodeOp = .none :=
  (beginOp_fresh st t o).nodeOp

theorem OpSt.next_nodeStep (cfg : Cfg) (s : Shared) (l : Locals) (b : Bool) (op : OpSt) :
    NodeStep s l b op.nodeOp (op.core cfg s l b) (op.next cfg s l b).2 (op.next cfg s l b).1.nodeOp := by
  cases op with
  | exitCool cd =>
    refine .cool cd rfl (.refl _) ?_
    simp only [OpSt.next]
    cases (stepCD s cd).2.1 <;> first | exact .inl ⟨rfl, rfl⟩ | exact .inr ⟨rfl, .inr ⟨rfl, rfl⟩⟩
  | load c _ ld | loadFull c _ ld =>
    refine (stepLP_nodeStep cfg c s l b ld).transfer (.refl _) rfl ?_
    simp only [OpSt.next]
    cases (stepLP cfg c s l b ld).2.2.1 <;> first | rfl | (dsimp only; split <;> rfl)
  | swapPay c _ p _ pp | cinto c _ p pp | dropc c p pp =>
    refine (stepPP_nodeStep cfg p c s l b pp).transfer (.refl _) rfl ?_
    simp only [OpSt.next]
    cases (stepPP cfg p c s l b pp).2.2.1 <;> first | rfl | (dsimp only; (repeat' split) <;> rfl)
  | cas c _ _ curPtr new _ cp =>
    refine (stepCP_nodeStep cfg c curPtr new s l b cp).transfer (.refl _) rfl ?_
    simp only [OpSt.next]
    cases (stepCP cfg c curPtr new s l b cp).2.2.1 <;> rfl
  | rcu c _ tries rp =>
    refine (stepRP_nodeStep cfg c s l b tries rp).transfer (.refl _) rfl ?_
    simp only [OpSt.next]
    cases (stepRP cfg c s l b tries rp).2.2.1 <;> rfl
  | _ =>
    -- a guard's drop or promotion, one count operation, or `swap`'s exchange
    refine .other rfl ?_ rfl (.inl ?_)
    · first | exact stepGI_quiet _ _ | exact stepGD_quiet _ _ | exact .incObj _ _ | exact .decObj _ _ | exact .refl _
    · simp only [OpSt.next]; first | rfl | (split <;> rfl)

theorem microStep_nodeStep (st : State) (t : Nat) (b : Bool) :
    NodeStep st.sh (st.th t).loc b (st.th t).op.nodeOp (microStep st t b).1.sh ((microStep st t b).1.th t).loc
      ((microStep st t b).1.th t).op.nodeOp := by
  by_cases hop : (st.th t).op = .idle
  · rw [hop]
    cases hp : (st.th t).prog with
    | nil =>
      -- thread exit: the node, if there is one, goes to cooldown
      simp only [microStep, hop, hp, upd_same]
      refine .other rfl (.refl _) rfl ?_
      cases (st.th t).loc.node with
      | none => exact .inl rfl
      | some n => exact .inr (.inr ⟨n, rfl, rfl⟩)
    | cons x rest =>
      rw [microStep_idle_cons st t b hop (o := x.2) hp]
      exact .other rfl ⟨.of_eq (beginOp_nodes ..), .of_eq (beginOp_head ..) (beginOp_nodes ..) (beginOp_nNodes ..)⟩
        ((beginOp_node ..).trans (by simp only [upd_same])) (.inl (beginOp_nodeOp ..))
  · obtain ⟨e1, e2, _⟩ := microStep_next st t b hop
    exact (OpSt.next_nodeStep ..).transfer (microStep_core st t b hop) (by rw [e2]) (by rw [e1])

inductive OwnStep (s : Shared) (o : Option Nat) (s' : Shared) (o' : Option Nat) : Prop
  /-- ownership stays: no `in_use` word is written, or that of a node nobody owns (it is not `USED`: taken out of
      cooldown for the check, released or put back after it) -/
  | keep (hiu : ∀ m, (s'.nodes m).inUse = (s.nodes m).inUse ∨ (s.nodes m).inUse ≠ nodeUsed)
      (hn : s'.nNodes = s.nNodes) (ho : o' = o)
  /-- a node is acquired: claimed (it was `UNUSED`, at any rate not `USED`), or freshly allocated -/
  | acquire (n : Nat)
      (hk : ((s.nodes n).inUse ≠ nodeUsed ∧ s'.nNodes = s.nNodes) ∨ (n = s.nNodes ∧ s'.nNodes = s.nNodes + 1))
      (hiu : ∀ m, (s'.nodes m).inUse = if m = n then nodeUsed else (s.nodes m).inUse) (hob : o = none) (ho : o' = some n)
  | cool (n : Nat) (hob : o = some n)
      (hiu : ∀ m, (s'.nodes m).inUse = if m = n then nodeCooldown else (s.nodes m).inUse)
      (hn : s'.nNodes = s.nNodes) (ho : o' = none)

theorem OwnStep.same {s s' : Shared} (o : Option Nat) (hu : USame s s') (hn : s'.nNodes = s.nNodes) : OwnStep s o s' o :=
  .keep (fun m => .inl (hu m)) hn rfl

theorem OwnStep.transfer {s : Shared} {o : Option Nat} {s1 s2 : Shared} {o' o'' : Option Nat}
    (h : OwnStep s o s1 o') (hc : CoreEq s1 s2) (ho : o'' = o') : OwnStep s o s2 o'' := by
  subst ho
  cases h with
  | keep hiu hn ho => exact .keep (fun m => by rw [hc.nodes]; exact hiu m) (hc.nNodes.trans hn) ho
  | acquire n hk hiu hob ho => exact .acquire n (by rw [hc.nNodes]; exact hk) (fun m => by rw [hc.nodes]; exact hiu m) hob ho
  | cool n hob hiu hn ho => exact .cool n hob (fun m => by rw [hc.nodes]; exact hiu m) (hc.nNodes.trans hn) ho

/-- ownership as seen from a `Node::get` in progress (`base` = what the thread owns otherwise) -/
def ownsNG (base : Option Nat) : NG → Option Nat
  | .allocCas (some k) _ => some k
  | .done n => some n
  | _ => base

theorem OwnStep.write (s : Shared) (o : Option Nat) (n v : Nat) (h : (s.nodes n).inUse ≠ nodeUsed) :
    OwnStep s o (s.setNode n fun nd => { nd with inUse := v }) o := by
  refine .keep (fun m => ?_) rfl rfl
  rw [setNode_nodes]; split
  · rename_i e; exact .inr (e ▸ h)
  · exact .inl rfl

theorem stepNG_own (s : Shared) (b : Bool) (ng : NG) :
    OwnStep s (ownsNG none ng) (stepNG s b ng).1 (ownsNG none (stepNG s b ng).2.1) := by
  have hd := Consts.node_states_distinct
  cases ng with
  | trav => simp only [stepNG]; cases s.head <;> exact .same _ (.refl s) rfl
  | cc0 n =>
    simp only [stepNG]; split
    · rename_i h; exact .write s _ n _ (by rw [h]; exact hd.2.1.symm)
    · exact .same _ (.refl s) rfl
  | cc1 n => exact .same _ (.refl s) rfl
  | cc2 n idle =>
    simp only [stepNG]; split
    · rename_i h; exact .write s _ n _ (by rw [h]; exact Consts.node_checking_distinct.1)
    · exact .same _ (.setFault _ _) (setFault_nNodes ..)
  | claim n =>
    simp only [stepNG]; split
    · rename_i h
      refine .acquire n (.inl ⟨by rw [h]; exact hd.1, rfl⟩) (fun m => ?_) rfl rfl
      rw [setNode_nodes]; split <;> rfl
    · simp only [NG.afterNode]; cases (s.nodes n).next <;> exact .same _ (.refl s) rfl
  | allocLoad => exact .same _ (.refl s) rfl
  | allocCas me h =>
    cases me with
    | some k =>
      simp only [stepNG]; split <;> exact .same _ (USame.setNode s k (fun nd => { nd with next := h }) (fun _ => rfl)) rfl
    | none =>
      simp only [stepNG]; split <;> exact .acquire s.nNodes (.inr ⟨rfl, rfl⟩) (newNode_inUse s h) rfl rfl
  | done n => exact .same _ (.refl s) rfl

def ownsCD : CD → Option Nat
  | .res n => some n
  | .swap n => some n
  | _ => none

theorem stepCD_own (s : Shared) (cd : CD) : OwnStep s (ownsCD cd) (stepCD s cd).1 (ownsCD (stepCD s cd).2.1) := by
  cases cd with
  | swap n =>
    simp only [stepCD]
    refine .cool n rfl (fun m => ?_) (ite_setFault_nNodes ..) rfl
    rw [ite_setFault_nodes, setNode_nodes]; split <;> rfl
  | done => exact .same _ (.refl s) rfl
  | _ => simp only [stepCD]; refine .same _ ?_ rfl; exact .setNode _ _ _ (fun _ => rfl)

def ownsLP (l : Locals) : LP → Option Nat
  | .get ng => ownsNG none ng
  | .reget ng => ownsNG none ng
  | .cool cd => ownsCD cd
  | _ => l.node

def ownsPP (l : Locals) : PP → Option Nat
  | .get ng => ownsNG none ng
  | .hload _ ld => ownsLP l ld
  | _ => l.node

def ownsCP (l : Locals) : CP → Option Nat
  | .load ld => ownsLP l ld
  | .pay _ pp => ownsPP l pp
  | _ => l.node

def ownsRP (l : Locals) : RP → Option Nat
  | .load ld => ownsLP l ld
  | .cas _ _ cp => ownsCP l cp
  | _ => l.node

def ownsT (th : Thread) : Option Nat :=
  match th.op with
  | .load _ _ ld => ownsLP th.loc ld
  | .loadFull _ _ ld => ownsLP th.loc ld
  | .swapPay _ _ _ _ pp => ownsPP th.loc pp
  | .cinto _ _ _ pp => ownsPP th.loc pp
  | .dropc _ _ pp => ownsPP th.loc pp
  | .cas _ _ _ _ _ _ cp => ownsCP th.loc cp
  | .rcu _ _ _ rp => ownsRP th.loc rp
  | .exitCool cd => ownsCD cd
  | _ => th.loc.node

def NodeOp.owns (l : Locals) : NodeOp → Option Nat
  | .get ng => ownsNG Option.none ng
  | .cool cd => ownsCD cd
  | .none => l.node

theorem ownsLP_eq (l : Locals) (lp : LP) : ownsLP l lp = lp.nodeOp.owns l := by cases lp <;> rfl
theorem ownsPP_eq (l : Locals) (pp : PP) : ownsPP l pp = pp.nodeOp.owns l := by
  cases pp <;> first | rfl | exact ownsLP_eq ..
theorem ownsCP_eq (l : Locals) (cp : CP) : ownsCP l cp = cp.nodeOp.owns l := by
  cases cp <;> first | rfl | exact ownsLP_eq .. | exact ownsPP_eq ..
theorem ownsRP_eq (l : Locals) (rp : RP) : ownsRP l rp = rp.nodeOp.owns l := by
  cases rp <;> first | rfl | exact ownsLP_eq .. | exact ownsCP_eq ..
theorem ownsT_eq (th : Thread) : ownsT th = th.op.nodeOp.owns th.loc := by
  unfold ownsT
  cases th.op <;> first | rfl | exact ownsLP_eq .. | exact ownsPP_eq .. | exact ownsCP_eq .. | exact ownsRP_eq ..

theorem microStep_own (st : State) (t : Nat) (b : Bool) :
    OwnStep st.sh (ownsT (st.th t)) (microStep st t b).1.sh (ownsT ((microStep st t b).1.th t)) ∧
    (∀ t', t' ≠ t → (microStep st t b).1.th t' = st.th t') := by
  refine ⟨?_, fun t' h => microStep_th_other st t b h⟩
  rw [ownsT_eq, ownsT_eq]
  cases microStep_nodeStep st t b with
  | get ng ho hs hl ho' =>
    rw [ho, ho']
    refine (stepNG_own st.sh b ng).transfer hs ?_
    cases hng : (stepNG st.sh b ng).2.1 <;> first | rfl | (rw [hng] at hl; exact hl)
  | cool cd ho hs ho' =>
    rw [ho]
    refine (stepCD_own st.sh cd).transfer hs ?_
    rcases ho' with ⟨e, _⟩ | ⟨e, ⟨e', _⟩ | ⟨e', hn⟩⟩
    · rw [e]; rfl
    · rw [e, e']; rfl
    · rw [e, e']; exact hn
  | other ho hq hl ho' =>
    rw [ho]
    refine (OwnStep.same _ hq.inUse hq.list.2.2).transfer (.refl _) ?_
    rcases ho' with e | ⟨e, hn⟩ | ⟨n, e, hn⟩
    · rw [e]; exact hl
    · rw [e]; exact hn.symm
    · rw [e]; exact hn.symm

structure OwnInv (st : State) : Prop where
  lt : ∀ t n, ownsT (st.th t) = some n → n < st.sh.nNodes
  used : ∀ t n, ownsT (st.th t) = some n → (st.sh.nodes n).inUse = nodeUsed
  excl : ∀ t t' n, t ≠ t' → ownsT (st.th t) = some n → ownsT (st.th t') ≠ some n
  /-- nodes that do not exist yet look `USED` (so they can be neither claimed nor released) -/
  beyond : ∀ n, st.sh.nNodes ≤ n → (st.sh.nodes n).inUse = nodeUsed

theorem OwnInv.step {st : State} (h : OwnInv st) (t : Nat) (b : Bool) : OwnInv (microStep st t b).1 := by
  obtain ⟨hs, hoth⟩ := microStep_own st t b
  generalize (microStep st t b).1 = st' at *
  have own' : ∀ t' m, ownsT (st'.th t') = some m → (t' = t ∧ ownsT (st'.th t) = some m) ∨ (t' ≠ t ∧ ownsT (st.th t') = some m) :=
    fun t' m hm => by
      by_cases ht : t' = t
      · exact .inl ⟨ht, ht ▸ hm⟩
      · exact .inr ⟨ht, by rw [← hoth t' ht]; exact hm⟩
  cases hs with
  | keep hiu hn ho =>
    have all : ∀ t' m, ownsT (st'.th t') = some m → ownsT (st.th t') = some m := fun t' m hm =>
      (own' t' m hm).elim (fun ⟨e, h1⟩ => by rw [e, ← ho]; exact h1) (·.2)
    have kept : ∀ m, (st.sh.nodes m).inUse = nodeUsed → (st'.sh.nodes m).inUse = nodeUsed := fun m hm =>
      (hiu m).elim (·.trans hm) (absurd hm)
    exact ⟨fun t' n hh => hn ▸ h.lt t' n (all t' n hh), fun t' n hh => kept n (h.used t' n (all t' n hh)),
      fun t1 t2 n hne h1 h2 => h.excl t1 t2 n hne (all t1 n h1) (all t2 n h2), fun n hn' => kept n (h.beyond n (hn ▸ hn'))⟩
  | acquire n hk hiu hob ho =>
    have nobody : ∀ t', ownsT (st.th t') ≠ some n := fun t' hh => by
      rcases hk with ⟨hk, _⟩ | ⟨e, _⟩
      · exact hk (h.used t' n hh)
      · exact Nat.lt_irrefl _ (e ▸ h.lt t' n hh)
    have hlt : n < st'.sh.nNodes ∧ st.sh.nNodes ≤ st'.sh.nNodes := by
      rcases hk with ⟨hk, e⟩ | ⟨e1, e⟩
      · rw [e]; exact ⟨Nat.lt_of_not_le (fun hle => hk (h.beyond n hle)), Nat.le_refl _⟩
      · omega
    have own'' : ∀ t' m, ownsT (st'.th t') = some m → (t' = t ∧ m = n) ∨ (t' ≠ t ∧ m ≠ n ∧ ownsT (st.th t') = some m) :=
      fun t' m hm => (own' t' m hm).imp (fun ⟨e, h1⟩ => ⟨e, by rw [ho] at h1; cases h1; rfl⟩)
        (fun ⟨e, h1⟩ => ⟨e, fun e' => nobody t' (e' ▸ h1), h1⟩)
    refine ⟨fun t' m hh => ?_, fun t' m hh => ?_, fun t1 t2 m hne h1 h2 => ?_, fun m hm => ?_⟩
    · rcases own'' t' m hh with ⟨_, e⟩ | ⟨_, _, h1⟩
      · exact e ▸ hlt.1
      · exact Nat.lt_of_lt_of_le (h.lt t' m h1) hlt.2
    · rw [hiu]
      rcases own'' t' m hh with ⟨_, e⟩ | ⟨_, e, h1⟩
      · rw [if_pos e]
      · rw [if_neg e]; exact h.used t' m h1
    · rcases own'' t1 m h1 with ⟨e1, _⟩ | ⟨_, ne1, o1⟩ <;> rcases own'' t2 m h2 with ⟨e2, e⟩ | ⟨_, ne2, o2⟩
      · exact hne (e1.trans e2.symm)
      · exact ne2 (by assumption)
      · exact ne1 e
      · exact h.excl t1 t2 m hne o1 o2
    · rw [hiu, if_neg (by omega)]; exact h.beyond m (by omega)
  | cool n hob hiu hn ho =>
    have own'' : ∀ t' m, ownsT (st'.th t') = some m → t' ≠ t ∧ m ≠ n ∧ ownsT (st.th t') = some m :=
      fun t' m hm => (own' t' m hm).elim (fun ⟨_, h1⟩ => by rw [ho] at h1; cases h1)
        (fun ⟨e, h1⟩ => ⟨e, fun e' => h.excl t t' n (Ne.symm e) hob (e' ▸ h1), h1⟩)
    refine ⟨fun t' m hh => hn ▸ h.lt t' m (own'' t' m hh).2.2, fun t' m hh => ?_,
      fun t1 t2 m hne h1 h2 => h.excl t1 t2 m hne (own'' t1 m h1).2.2 (own'' t2 m h2).2.2, fun m hm => ?_⟩
    · rw [hiu, if_neg (own'' t' m hh).2.1]; exact h.used t' m (own'' t' m hh).2.2
    · have := h.lt t n hob
      rw [hiu, if_neg (by omega)]; exact h.beyond m (hn ▸ hm)

theorem OwnInv.initial (cfg : Cfg) (progs : Nat → List (String × Op)) : OwnInv (State.initial cfg progs) :=
  ⟨fun _ _ h => (nomatch h), fun _ _ h => (nomatch h), fun _ _ _ _ h => (nomatch h), fun _ _ => rfl⟩

theorem OwnInv.reachable {st : State} (h : Reachable st) : OwnInv st :=
  h.induct OwnInv.initial (fun _ t b _ hi => hi.step t b)

def LP.cd? : LP → Option CD
  | .cool cd => some cd
  | _ => none
def PP.lp? : PP → Option LP
  | .hload _ ld => some ld
  | _ => none
def CP.lp? : CP → Option LP
  | .load ld => some ld
  | .pay _ pp => pp.lp?
  | _ => none
def RP.lp? : RP → Option LP
  | .load ld => some ld
  | .cas _ _ cp => cp.lp?
  | _ => none
def OpSt.lp? : OpSt → Option LP
  | .load _ _ ld => some ld
  | .loadFull _ _ ld => some ld
  | .swapPay _ _ _ _ pp => pp.lp?
  | .cinto _ _ _ pp => pp.lp?
  | .dropc _ _ pp => pp.lp?
  | .cas _ _ _ _ _ _ cp => cp.lp?
  | .rcu _ _ _ rp => rp.lp?
  | _ => none
/-- the `start_cooldown` in progress of a thread: at thread exit, or at the generation wrap -/
def OpSt.cd? : OpSt → Option CD
  | .exitCool cd => some cd
  | op => op.lp?.bind LP.cd?

theorem PP.afterLoad_lp (h : HL) (ld : LP) : (PP.afterLoad h ld).lp? = some ld ∨ ∃ q d, ld = .done q d := by
  cases ld <;> first | exact Or.inl rfl | exact Or.inr ⟨_, _, rfl⟩
theorem CP.afterLoad_lp (cur new : Nat) (ld : LP) :
    (CP.afterLoad cur new ld).lp? = some ld ∨ ∃ q d, ld = .done q d := by
  cases ld <;> first | exact Or.inl rfl | exact Or.inr ⟨_, _, rfl⟩
theorem RP.afterLoad_lp (ld : LP) : (RP.afterLoad ld).lp? = some ld ∨ ∃ q d, ld = .done q d := by
  cases ld <;> first | exact Or.inl rfl | exact Or.inr ⟨_, _, rfl⟩

theorem PP.afterLoad_lp_eq {h : HL} {ld lp' : LP} (e : (PP.afterLoad h ld).lp? = some lp') : lp' = ld := by
  cases ld <;> simp only [PP.afterLoad] at e <;> (try split at e) <;> cases e <;> rfl
theorem CP.afterLoad_lp_eq {cur new : Nat} {ld lp' : LP} (e : (CP.afterLoad cur new ld).lp? = some lp') : lp' = ld := by
  cases ld <;> simp only [CP.afterLoad] at e <;> (repeat' split at e) <;> cases e <;> rfl
theorem RP.afterLoad_lp_eq {ld lp' : LP} (e : (RP.afterLoad ld).lp? = some lp') : lp' = ld := by
  cases ld <;> cases e <;> rfl

theorem CP.afterPay_lp (old : Guard) (pp : PP) : (CP.afterPay old pp).lp? = pp.lp? := by
  cases pp <;> simp only [CP.afterPay] <;> (try split) <;> rfl
theorem RP.afterCas_lp (cur : Guard) (a : Nat) (cp : CP) : (RP.afterCas cur a cp).lp? = cp.lp? := by
  cases cp <;> simp only [RP.afterCas] <;> (repeat' split) <;> rfl

theorem PP.nodeOp_of_lp {pp : PP} {ld : LP} (h : pp.lp? = some ld) : pp.nodeOp = ld.nodeOp := by
  cases pp <;> cases h; rfl

theorem CP.nodeOp_of_lp {cp : CP} {ld : LP} (h : cp.lp? = some ld) : cp.nodeOp = ld.nodeOp := by
  cases cp <;> first | (cases h; rfl) | exact PP.nodeOp_of_lp h | cases h

theorem RP.nodeOp_of_lp {rp : RP} {ld : LP} (h : rp.lp? = some ld) : rp.nodeOp = ld.nodeOp := by
  cases rp <;> first | (cases h; rfl) | exact CP.nodeOp_of_lp h | cases h

theorem OpSt.nodeOp_of_lp {op : OpSt} {ld : LP} (h : op.lp? = some ld) : op.nodeOp = ld.nodeOp := by
  cases op with
  | load _ _ _ | loadFull _ _ _ => cases h; rfl
  | swapPay _ _ _ _ _ | cinto _ _ _ _ | dropc _ _ _ => exact PP.nodeOp_of_lp h
  | cas _ _ _ _ _ _ _ => exact CP.nodeOp_of_lp h
  | rcu _ _ _ _ => exact RP.nodeOp_of_lp h
  | _ => cases h

theorem ownsT_of_lp (th : Thread) (ld : LP) (h : th.op.lp? = some ld) : ownsT th = ownsLP th.loc ld := by
  rw [ownsT_eq, ownsLP_eq, OpSt.nodeOp_of_lp h]

theorem owns_of_cooldown (th : Thread) (n : Nat) (h : th.op.cd? = some (.swap n)) : ownsT th = some n := by
  unfold OpSt.cd? at h
  split at h
  · rename_i cd heq; cases h; simp only [ownsT, heq, ownsCD]
  · cases hl : th.op.lp? with
    | none => rw [hl] at h; cases h
    | some ld => rw [hl] at h; rw [ownsT_of_lp th ld hl]; cases ld <;> cases h; rfl

end M
