import ArcSwapModel.Inv.Haz3
import ArcSwapModel.Inv.SlotStep

/-!
# The hazard invariant while no container is being destroyed

A fast slot that names a value protects it: the value is still in a container, or a thread that
took it out of one is walking the list and has not passed the slot — or the slot's owner has not
confirmed it yet (it is between the swap into the slot and the re-read of the container, or on its
way to take the slot back).  The invariant that is carried along executions is `HazInvD`
(`Inv/HazD2.lean`); of a state in which no thread is destroying a container it says this
(`HazInv.of_D`, `Inv/HazD4.lean`), so `HazInv` holds along every execution that destroys none
(`HazAll.of_tameRun`).
-/

namespace M
open Consts

/-- the owner has written the slot and not yet confirmed it -/
def Unc (lp : Option LP) (a i : Nat) : Prop := lp = some (.a3 a i) ∨ lp = some (.a4 a i)

structure HazInv (N : Nat) (st : State) (L : List Nat) : Prop where
  named : NamedLinked st L
  haz : ∀ n i a, i < slotCnt → (st.sh.nodes n).fast i = .ptr a →
    (∃ c, c < N ∧ st.sh.cells c = some a) ∨
      (∃ w pp, (st.th w).op.walk? = some (a, pp) ∧ pp.ahead L n i) ∨
      (∃ o, (st.th o).loc.node = some n ∧ Unc (st.th o).op.lp? a i)

theorem HazInv.initial (N : Nat) (cfg : Cfg) (progs : Nat → List (String × Op)) : HazInv N (State.initial cfg progs) [] :=
  ⟨NamedLinked.initial cfg progs, fun n i a _ h => by simp [State.initial] at h⟩

theorem PP.not_ahead_done (L : List Nat) (n i : Nat) : ¬ PP.done.ahead L n i := by
  intro h
  rcases h with h | ⟨m, j, h, _⟩ <;> cases h

end M
