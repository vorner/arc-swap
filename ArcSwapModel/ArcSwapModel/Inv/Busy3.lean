import ArcSwapModel.Inv.Busy2

/-!
# The `busy` invariant

`BusyInv`: the operations in progress on a container are counted in `busy`; a container taken for
destruction is worked on by its destroyer alone, keeps its value until the destroyer's walk is
over, and an operation that does not destroy works on a container that exists and is not taken.
-/

namespace M
open Consts

structure BusyInv (N T : Nat) (st : State) : Prop where
  idle : IdleBeyond T st
  count : ∀ c, sumN (fun t => (st.th t).op.nb c) T ≤ st.sh.busy c
  taken : ∀ t c, (st.th t).op.cons = true → (st.th t).op.cell? = some c → st.ctaken c = true
  consN : ∀ t c, (st.th t).op.cons = true → (st.th t).op.cell? = some c → c < N
  free : ∀ t c, (st.th t).op.cell? = some c → (st.th t).op.cons = false →
    st.sh.cells c ≠ none ∧ c < N ∧ st.ctaken c = false
  uniq : ∀ t u c, (st.th t).op.cons = true → (st.th u).op.cons = true →
    (st.th t).op.cell? = some c → (st.th u).op.cell? = some c → t = u
  ccell : ∀ t c p, (st.th t).op.consWalk c p → st.sh.cells c = some p
  cdec : ∀ t c p, (st.th t).op = .dropcDec c p → st.sh.cells c = some p

theorem BusyInv.initial (N T : Nat) (cfg : Cfg) (progs : Nat → List (String × Op)) : BusyInv N T (State.initial cfg progs) :=
  ⟨(fun _ _ => rfl), (fun c => by
      have : sumN (fun t => ((State.initial cfg progs).th t).op.nb c) T = 0 := by
        rw [← sumN_zero T]; exact sumN_congr (fun n _ => by simp [State.initial, OpSt.nb, OpSt.cell?])
      omega),
   (fun t c h => by cases h), (fun t c h => by cases h), (fun t c h => by cases h), (fun t u c h => by cases h),
   (fun t c p h => by rcases h with ⟨_, _, h⟩ | ⟨_, h⟩ <;> cases h), (fun t c p h => by cases h)⟩

theorem OpSt.consWalk_cons {op : OpSt} {c p : Nat} (h : op.consWalk c p) : op.cons = true ∧ op.cell? = some c := by
  rcases h with ⟨x, pp, rfl⟩ | ⟨pp, rfl⟩ <;> exact ⟨rfl, rfl⟩

theorem BusyInv.step {N T : Nat} {st : State} (h : BusyInv N T st) (hx : ∀ t, (st.th t).op.cxok)
    (t : Nat) (ht : t < T) (b : Bool) (htame : Tame2 N st t) : BusyInv N T (microStep st t b).1 := by
  have hoth : ∀ u, u ≠ t → (microStep st t b).1.th u = st.th u := fun u e => microStep_th_other st t b e
  -- a thread with an operation on a container is below `T`
  have below : ∀ u c, (st.th u).op.cell? = some c → u < T := by
    intro u c hc
    refine Nat.lt_of_not_le (fun hle => ?_)
    rw [h.idle u hle] at hc; cases hc
  have counted : ∀ u c, (st.th u).op.cell? = some c → (st.th u).op.cons = false → 1 ≤ st.sh.busy c := by
    intro u c hc hn
    have h1 := @sumN_term (fun t => (st.th t).op.nb c) T u (below u c hc)
    have h2 : (st.th u).op.nb c = 1 := by simp [OpSt.nb, hc, hn]
    have := h.count c
    omega
  -- what the step does to `ctaken`
  have hct : (microStep st t b).1.ctaken = st.ctaken ∨
      ∃ c2, (st.th t).op = .idle ∧ st.ctaken c2 = false ∧ st.sh.busy c2 = 0 ∧
        (microStep st t b).1.ctaken = upd st.ctaken c2 true ∧
        ((microStep st t b).1.th t).op.cell? = some c2 ∧ ((microStep st t b).1.th t).op.cons = true := by
    rcases microStep_ctaken st t b with h1 | ⟨hidle, c2, hc2, hcons⟩
    · exact Or.inl h1
    · rcases microStep_cellq2 st t b c2 hc2 with ⟨h2, _⟩ | ⟨_, _, h3, _, _, _, h7⟩
      · rw [hidle] at h2; cases h2
      · obtain ⟨h8, h9, _⟩ := h7 hcons
        exact Or.inr ⟨c2, hidle, h3, h8, h9, hc2, hcons⟩
  -- the cell of a container that an operation of another kind is working on stays non-empty
  have keep_cell : ∀ c, st.sh.cells c ≠ none → st.ctaken c = false → (microStep st t b).1.sh.cells c ≠ none := by
    intro c hne hnt
    by_cases hc : (st.th t).op.cell? = some c
    · have hncons : (st.th t).op.cons = false := by
        cases hcb : (st.th t).op.cons with
        | false => rfl
        | true => have := h.taken t c hcb hc; rw [hnt] at this; cases this
      cases hq : st.sh.cells c with
      | none => exact absurd hq hne
      | some a =>
        have hnidle : (st.th t).op ≠ .idle := fun e => by rw [e] at hc; cases hc
        rcases microStep_cells (N := N) st t b (hx t) (fun e => absurd e hnidle) hncons c a hq with h1 | h1
        · rw [h1]; simp
        · exact h1.2
    · rw [microStep_cells_other st t b c hc (fun hidle txt x rest hp => by
        have := (htame hidle txt _ rest hp).2 c x rfl
        exact absurd this hne)]
      exact hne
  -- a container that another thread is destroying keeps its value
  have keep_taken : ∀ u c p, u ≠ t → (st.th u).op.cons = true → (st.th u).op.cell? = some c → st.sh.cells c = some p →
      (microStep st t b).1.sh.cells c = some p := by
    intro u c p e hcons hcell hcp
    rw [microStep_cells_other st t b c ?_ ?_]
    · exact hcp
    · intro hc
      cases hcb : (st.th t).op.cons with
      | false => have := (h.free t c hc hcb).2.2; rw [h.taken u c hcons hcell] at this; cases this
      | true => exact e (h.uniq u t c hcons hcb hcell hc)
    · intro hidle txt x rest hp
      have := (htame hidle txt _ rest hp).2 c x rfl
      rw [hcp] at this; cases this
  refine ⟨fun u hu => ?_, fun c => ?_, fun u c hcons hcell => ?_, fun u c hcons hcell => ?_, fun u c hcell hcons => ?_,
    fun u1 u2 c hc1 hc2 hl1 hl2 => ?_, fun u c p hw => ?_, fun u c p hd => ?_⟩
  · -- idle beyond T
    have : u ≠ t := by omega
    rw [hoth u this]; exact h.idle u hu
  · -- the count
    have h1 := microStep_busy st t b c (by
      have := @sumN_term (fun t => (st.th t).op.nb c) T t ht
      have := h.count c
      omega)
    have h2 := @sumN_upd (fun u => (st.th u).op.nb c) (fun u => ((microStep st t b).1.th u).op.nb c) T t ht
      (fun m hm => by rw [hoth m hm])
    have h3 := h.count c
    omega
  · -- a destroyer's container is taken
    by_cases e : u = t
    · subst e
      rcases microStep_cellq2 st u b c hcell with ⟨h2, h3⟩ | ⟨_, _, _, _, _, _, h7⟩
      · rw [h3] at hcons
        have := h.taken u c hcons h2
        rcases hct with h4 | ⟨c2, hidle, _, _, _, _, _⟩
        · rw [h4]; exact this
        · rw [hidle] at h2; cases h2
      · obtain ⟨_, h9, _⟩ := h7 hcons
        rw [h9]; simp
    · rw [hoth u e] at hcons hcell
      have := h.taken u c hcons hcell
      rcases hct with h4 | ⟨c2, _, _, _, h5, _, _⟩
      · rw [h4]; exact this
      · rw [h5]; by_cases e2 : c = c2 <;> simp [upd, e2, this]
  · -- a destroyer's container is below N
    by_cases e : u = t
    · subst e
      rcases microStep_cellq2 st u b c hcell with ⟨h2, h3⟩ | ⟨_, _, _, h6, _⟩
      · rw [h3] at hcons; exact h.consN u c hcons h2
      · exact h6 N htame
    · rw [hoth u e] at hcons hcell; exact h.consN u c hcons hcell
  · -- an operation of another kind works on a container that exists and is not taken
    by_cases e : u = t
    · subst e
      rcases microStep_cellq2 st u b c hcell with ⟨h2, h3⟩ | ⟨_, h4, h5, h6, h7, h8, _⟩
      · rw [h3] at hcons
        obtain ⟨f1, f2, f3⟩ := h.free u c h2 hcons
        refine ⟨keep_cell c f1 f3, f2, ?_⟩
        rcases hct with h4 | ⟨c2, hidle, _, _, _, _, _⟩
        · rw [h4]; exact f3
        · rw [hidle] at h2; cases h2
      · refine ⟨by rw [h7]; exact h4, h6 N htame, ?_⟩
        rw [h8 hcons]; exact h5
    · rw [hoth u e] at hcons hcell
      obtain ⟨f1, f2, f3⟩ := h.free u c hcell hcons
      refine ⟨keep_cell c f1 f3, f2, ?_⟩
      rcases hct with h4 | ⟨c2, _, _, hb0, h5, _, _⟩
      · rw [h4]; exact f3
      · rw [h5]
        by_cases e2 : c = c2
        · subst e2
          have := counted u c hcell hcons
          omega
        · simp [upd, e2, f3]
  · -- one destroyer per container
    by_cases e1 : u1 = t <;> by_cases e2 : u2 = t
    · rw [e1, e2]
    · subst e1
      rw [hoth u2 e2] at hc2 hl2
      rcases microStep_cellq2 st u1 b c hl1 with ⟨h2, h3⟩ | ⟨_, _, h5, _⟩
      · rw [h3] at hc1; exact h.uniq u1 u2 c hc1 hc2 h2 hl2
      · have := h.taken u2 c hc2 hl2; rw [h5] at this; cases this
    · subst e2
      rw [hoth u1 e1] at hc1 hl1
      rcases microStep_cellq2 st u2 b c hl2 with ⟨h2, h3⟩ | ⟨_, _, h5, _⟩
      · rw [h3] at hc2; exact h.uniq u1 u2 c hc1 hc2 hl1 h2
      · have := h.taken u1 c hc1 hl1; rw [h5] at this; cases this
    · rw [hoth u1 e1] at hc1 hl1; rw [hoth u2 e2] at hc2 hl2
      exact h.uniq u1 u2 c hc1 hc2 hl1 hl2
  · -- the container keeps its value while its destroyer walks
    by_cases e : u = t
    · subst e
      rcases microStep_consWalk st u b c p hw with ⟨h1, h2⟩ | hidle
      · rw [h2]; exact h.ccell u c p h1
      · obtain ⟨hcons, hcell⟩ := OpSt.consWalk_cons hw
        rcases microStep_cellq2 st u b c hcell with ⟨h2, _⟩ | ⟨_, _, _, _, h7, _, h9⟩
        · rw [hidle] at h2; cases h2
        · obtain ⟨_, _, p', hp', hor⟩ := h9 hcons
          rw [h7, hp']
          rcases hor with ⟨x, hx'⟩ | hx' <;> rcases hw with ⟨y, pp, hy⟩ | ⟨pp, hy⟩ <;> rw [hx'] at hy <;> cases hy <;> rfl
    · rw [hoth u e] at hw
      obtain ⟨hcons, hcell⟩ := OpSt.consWalk_cons hw
      exact keep_taken u c p e hcons hcell (h.ccell u c p hw)
  · -- … and until the final decrement of a drop
    by_cases e : u = t
    · subst e
      obtain ⟨⟨pp, h1⟩, h2⟩ := microStep_dropcDec st u b c p hd
      rw [h2]; exact h.ccell u c p (Or.inr ⟨pp, h1⟩)
    · rw [hoth u e] at hd
      exact keep_taken u c p e (by rw [hd]; rfl) (by rw [hd]; rfl) (h.cdec u c p hd)

end M
