import ArcSwapModel.Inv.HoldH

/-!
# Quiescence, with the slots part proved

`Ledger.quiescent` asks that no debt slot names the value.  `HoldInv` and `HHoldInv` discharge it:
with no operation in flight and no guard that carries a debt left in a register, no slot names
anything — so at rest the strong count of every value is exactly the number of containers, handles
and guards denoting it.
-/

namespace M
open Consts

theorem holdInv_of_env {K N T : Nat} (cfg : Cfg) (progs : Nat → List (String × Op))
    (sched : List (Nat × Bool)) (he : EnvRun0 K N T (State.initial cfg progs) sched)
    (hf : (run (State.initial cfg progs) sched).sh.fault = none) :
    HoldInv (run (State.initial cfg progs) sched) :=
  (HoldInv.initial cfg progs).run (NodeInv.initial cfg progs) sched (RegRun.of_env he) hf

/-- **C02 at rest.**  Along any execution that keeps the program discipline (`EnvRun0`) and ends
    without a fault, in a state where every thread is between operations (or has exited) and no
    register holds a guard with a debt: no debt slot — fast or helping — of any node names a value,
    and the strong count of every value equals the number of containers, handles and guards
    denoting it. -/
theorem C02_at_rest (K N T : Nat) (hK : 0 < K) (cfg : Cfg) (progs : Nat → List (String × Op))
    (sched : List (Nat × Bool)) (he : EnvRun0 K N T (State.initial cfg progs) sched)
    (hf : (run (State.initial cfg progs) sched).sh.fault = none)
    (hidle : ∀ t, ((run (State.initial cfg progs) sched).th t).op = .idle ∨
      ((run (State.initial cfg progs) sched).th t).op = .finished)
    (hg : ∀ g gd, (run (State.initial cfg progs) sched).sh.greg g = some gd → gd.debt = none) :
    (∀ n i a, ((run (State.initial cfg progs) sched).sh.nodes n).fast i ≠ .ptr a ∧
        ((run (State.initial cfg progs) sched).sh.nodes n).hslot ≠ .ptr a) ∧
      ∀ a, a ≠ 0 → ((run (State.initial cfg progs) sched).sh.heap a).cnt =
        (run (State.initial cfg progs) sched).sh.regs N a := by
  have h1 := holdInv_of_env cfg progs sched he hf
  have h2 := HHoldInv.reachable ⟨cfg, progs, sched, rfl⟩ hf
  have hs : ∀ n i a, ((run (State.initial cfg progs) sched).sh.nodes n).fast i ≠ .ptr a ∧
      ((run (State.initial cfg progs) sched).sh.nodes n).hslot ≠ .ptr a :=
    fun n i a => ⟨h1.rest hg hidle n i a, h2.rest hidle n a⟩
  refine ⟨hs, fun a ha => ?_⟩
  refine (C02_ledger_final K N T hK cfg progs sched he hf).quiescent (fun t _ => ?_) a ha (fun n i => hs n i a)
  rcases hidle t with e | e <;> rw [e] <;> rfl

/-- non-vacuity of `C02_at_rest`: one thread creating a value is such an execution, ends at rest,
    and the count of the value it made (address 1) is one — the handle -/
example :
    let st0 := State.initial {} (fun t => if t = 0 then [("new h0 5", .new 0 5)] else [])
    EnvRun0 1 4 1 st0 [(0, false)] ∧ (run st0 [(0, false)]).sh.fault = none ∧
      (∀ t, ((run st0 [(0, false)]).th t).op = .idle ∨ ((run st0 [(0, false)]).th t).op = .finished) ∧
      (∀ g gd, (run st0 [(0, false)]).sh.greg g = some gd → gd.debt = none) := by
  refine ⟨envRun0_new, by decide, ?_, ?_⟩
  · intro t
    by_cases ht : t = 0
    · subst ht; left; simp [run, State.initial, microStep, beginOp, alloc]
    · left; simp [run, State.initial, microStep, beginOp, alloc, upd, ht]
  · intro g gd h; simp [run, State.initial, microStep, beginOp, alloc] at h

/-- the holders are not vacuous: a load that has published its debt holds that slot; a guard with a
    debt holds it; a load between `confirm` and `pay` holds its helping slot -/
example : (LP.a3 7 2).holds 0 2 7 { node := some 0 } ∧ ({ ptr := 7, debt := some (0, 2) } : Guard).holds 0 2 7 ∧
    (LP.fokPay 7).hholds 0 7 { node := some 0 } := ⟨⟨rfl, rfl, rfl⟩, ⟨rfl, rfl⟩, ⟨rfl, rfl⟩⟩

end M
