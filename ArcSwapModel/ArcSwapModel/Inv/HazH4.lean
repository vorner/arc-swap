import ArcSwapModel.Inv.HazH3
import ArcSwapModel.Inv.Touch3

/-!
# The fallback's increment touches a live object

The helping-slot hazard invariant along the executions of the ledger (`EnvRun0`: in particular no
hand-over succeeds), and with it the one case `touched_object_alive` leaves out: at the step at
which the fallback path takes its own reference to the candidate it has confirmed, the candidate
has not been destroyed.  Hence *every* step that touches a reference count touches a live object.
-/

namespace M
open Consts

structure HazHAll (N T : Nat) (st : State) (L : List Nat) : Prop where
  d : HazAllD N T st L
  ctl : CtlInv st
  aa : ActAddr st
  h : HazH N st L

theorem HazHAll.initial (N T : Nat) (cfg : Cfg) (progs : Nat → List (String × Op)) :
    HazHAll N T (State.initial cfg progs) [] :=
  ⟨HazAllD.initial N T cfg progs, CtlInv.initial cfg progs, ActAddr.initial cfg progs, HazH.initial N cfg progs⟩

theorem HazHAll.step {N T : Nat} {st : State} {L : List Nat} (h : HazHAll N T st L) (t : Nat) (ht : t < T) (b : Bool)
    (htame : Tame2 N st t) (hne : NoEnv st.sh) (hne' : NoEnv (microStep st t b).1.sh)
    (hf' : (microStep st t b).1.sh.fault = none) : ∃ pre, HazHAll N T (microStep st t b).1 (pre ++ L) := by
  obtain ⟨pre, hpre⟩ := h.d.step t ht b htame
  exact ⟨pre, hpre, h.ctl.step t b h.d.node.nodes h.d.node.th h.d.own hf', h.aa.step h.d.own h.d.node t b,
    h.h.step h.d.haz.named h.d.own h.d.node h.d.walk h.d.cx h.d.busy h.ctl h.aa hne t b hne' hf' htame pre⟩

/-- the invariants hold in the end state of an execution of the ledger that has raised no fault: no
    state before the last had one either (`microStep_fault_mono`) -/
theorem HazHAll.run {K N T : Nat} {st : State} {L : List Nat} (h : HazHAll N T st L) (sched : List (Nat × Bool))
    (he : EnvRun0 K N T st sched) (hf : (run st sched).sh.fault = none) : ∃ L', HazHAll N T (run st sched) L' :=
  he.invariant (P := fun st => st.sh.fault = none → ∃ L', HazHAll N T st L')
    (fun st t b ht h1 ih hf1 => by
      obtain ⟨L', hL'⟩ := ih (microStep_fault_mono st t b hf1)
      obtain ⟨pre, hpre⟩ := hL'.step t ht b (fun _ txt o rest' hp => h1.next txt o rest' hp) h1.noEnv h1.noEnvAfter hf1
      exact ⟨_, hpre⟩)
    sched (fun _ => ⟨L, h⟩) hf

theorem PP.hholds_of_lp {pp : PP} {ld : LP} {n a : Nat} {l : Locals} (h1 : pp.lp? = some ld) (h2 : ld.hholds n a l) :
    pp.hholds n a l := by
  cases pp <;> first | exact Option.some.inj h1 ▸ h2 | cases h1
theorem CP.hholds_of_lp {cp : CP} {ld : LP} {n a : Nat} {l : Locals} (h1 : cp.lp? = some ld) (h2 : ld.hholds n a l) :
    cp.hholds n a l := by
  cases cp <;> first | exact Option.some.inj h1 ▸ h2 | exact PP.hholds_of_lp h1 h2 | cases h1
theorem RP.hholds_of_lp {rp : RP} {ld : LP} {n a : Nat} {l : Locals} (h1 : rp.lp? = some ld) (h2 : ld.hholds n a l) :
    rp.hholds n a l := by
  cases rp <;> first | exact Option.some.inj h1 ▸ h2 | exact CP.hholds_of_lp h1 h2 | cases h1
theorem OpSt.hholds_of_lp {op : OpSt} {ld : LP} {n a : Nat} {l : Locals} (h1 : op.lp? = some ld) (h2 : ld.hholds n a l) :
    op.hholds n a l := by
  cases op <;> first
    | exact Option.some.inj h1 ▸ h2
    | exact PP.hholds_of_lp h1 h2 | exact CP.hholds_of_lp h1 h2 | exact RP.hholds_of_lp h1 h2 | cases h1

/-- **the candidate the fallback path has confirmed is alive when the reader takes its own
    reference** (`T::inc` in `HybridProtection::fallback`, the step `LP.fokInc`): along every
    execution that satisfies the ledger's assumptions — in particular, no hand-over succeeds — and
    has raised no fault -/
theorem fallback_candidate_alive (K N T : Nat) (hK : 0 < K) (cfg : Cfg) (progs : Nat → List (String × Op))
    (sched : List (Nat × Bool)) (he : EnvRun0 K N T (State.initial cfg progs) sched)
    (hf : (run (State.initial cfg progs) sched).sh.fault = none) (a : Nat) (ha : a ≠ 0)
    (t : Nat) (ht : t < T)
    (hlp : ((run (State.initial cfg progs) sched).th t).op.lp? = some (.fokInc a)) :
    1 ≤ ((run (State.initial cfg progs) sched).sh.heap a).cnt ∧
      ((run (State.initial cfg progs) sched).sh.heap a).live = true := by
  suffices hcnt : 1 ≤ ((run (State.initial cfg progs) sched).sh.heap a).cnt from
    ⟨hcnt, HeapOk.reachable ⟨cfg, progs, sched, rfl⟩ a hcnt⟩
  obtain ⟨L, hL⟩ := (HazHAll.initial N T cfg progs).run sched he hf
  have of_cell := stored_value_counted K N T hK cfg progs sched he hf a ha
  have of_walk := walked_value_counted K N T hK cfg progs sched he hf a ha
  have of_over := fun n hn => counted_of_overclaimed K N T hK cfg progs sched he hf a ha n slotCnt hn (Nat.lt_succ_self _)
  have hnodes := he.invariant (P := fun st => st.sh.nNodes ≤ K) (fun _ _ _ _ h _ => h.nodesBelow) sched (Nat.zero_le K)
  -- from here on only the end state matters
  generalize run (State.initial cfg progs) sched = st at *
  -- the reader has a node
  obtain ⟨n, hnode⟩ := Option.isSome_iff_exists.mp ((OpSt.okN_lp (hL.d.node.th t) hlp).2.1 rfl)
  have hnK : n < K := Nat.lt_of_lt_of_le (OpSt.okN_lt (hL.d.node.th t) n hnode) hnodes
  by_cases hs : (st.sh.nodes n).hslot = .ptr a
  · -- the slot still names the candidate: the hazard invariant
    have of_cons : ∀ o c, (st.th o).op.consWalk c a → 1 ≤ (st.sh.heap a).cnt := fun o c hcw =>
      of_cell c (hL.d.busy.consN o c (OpSt.consWalk_cons hcw).1 (OpSt.consWalk_cons hcw).2) (hL.d.busy.ccell o c a hcw)
    have of_walkC : ∀ w pp, (st.th w).op.walkC? = some (a, pp) → 1 ≤ (st.sh.heap a).cnt := by
      intro w pp hw
      rcases OpSt.walkC_cases hw with hw' | ⟨c, hcw, _⟩
      · exact of_walk w pp hw'
      · exact of_cons w c hcw
    rcases hL.h.haz t n a _ hlp rfl hnode hs with ⟨c, hc, hcell, _⟩ | ⟨w, pp, hw, _⟩ | ⟨_, pp, hw⟩
    · exact of_cell c hc hcell
    · exact of_walkC w pp hw
    · exact of_walkC t pp hw
  · -- a writer has paid the debt: the reader's claim is matched by no slot
    have c1 := cnt2_pos (OpSt.claims_of_hholds (OpSt.hholds_of_lp hlp ⟨hnode, rfl⟩))
    have s1 := @sumN_term (fun t => cnt2 ((st.th t).op.claims a (st.th t).loc) n slotCnt) T t ht
    have e1 : named (st.sh.nodes n) a slotCnt = 0 := by
      simp only [named, Nat.lt_irrefl, ↓reduceIte, ind, hs]
    exact of_over n hnK (by omega)

/-- **every step that touches a reference count touches a live, counted object** — the statement
    of `touched_object_alive` without its exception -/
theorem touched_object_alive_all (K N T : Nat) (hK : 0 < K) (cfg : Cfg) (progs : Nat → List (String × Op))
    (sched : List (Nat × Bool)) (he : EnvRun0 K N T (State.initial cfg progs) sched)
    (hf : (run (State.initial cfg progs) sched).sh.fault = none) (a : Nat) (ha : a ≠ 0)
    (t : Nat) (ht : t < T)
    (htouch : ((run (State.initial cfg progs) sched).th t).op.touch = some a) :
    1 ≤ ((run (State.initial cfg progs) sched).sh.heap a).cnt ∧
      ((run (State.initial cfg progs) sched).sh.heap a).live = true := by
  by_cases hnh : ((run (State.initial cfg progs) sched).th t).op.lp? = some (.fokInc a)
  · exact fallback_candidate_alive K N T hK cfg progs sched he hf a ha t ht hnh
  · exact touched_object_alive K N T hK cfg progs sched he hf a ha t ht htouch hnh

/-- **no reference count is touched after destruction**, the fallback path's increment included -/
theorem count_step_no_fault_all (K N T : Nat) (hK : 0 < K) (cfg : Cfg) (progs : Nat → List (String × Op))
    (sched : List (Nat × Bool)) (he : EnvRun0 K N T (State.initial cfg progs) sched)
    (hf : (run (State.initial cfg progs) sched).sh.fault = none) (a : Nat) (ha : a ≠ 0)
    (t : Nat) (ht : t < T) (b : Bool)
    (htouch : ((run (State.initial cfg progs) sched).th t).op.touch = some a) :
    (microStep (run (State.initial cfg progs) sched) t b).1.sh.fault = none := by
  obtain ⟨hc, hl⟩ := touched_object_alive_all K N T hK cfg progs sched he hf a ha t ht htouch
  exact microStep_touch_fault _ t b a htouch hl hc hf

/-- **inside the window the candidate is protected**: while a reader of the fallback path is
    between the read of its candidate and the end of its window, the candidate is still the content
    of the container it was read from, or a writer that took it out of that very container is
    walking the list and has not got past the help on the reader's node — it has not reached the
    node, or it is inside `help` on it, having read either nothing yet or the reader's generation -/
theorem candidate_protected_in_window (K N T : Nat) (cfg : Cfg) (progs : Nat → List (String × Op))
    (sched : List (Nat × Bool)) (he : EnvRun0 K N T (State.initial cfg progs) sched)
    (hf : (run (State.initial cfg progs) sched).sh.fault = none)
    (o n c g a : Nat) (lp : LP) (hlp : ((run (State.initial cfg progs) sched).th o).op.lp? = some lp)
    (hcand : lp.cand? = some (g, a)) (hnode : ((run (State.initial cfg progs) sched).th o).loc.node = some n)
    (hcell : ((run (State.initial cfg progs) sched).th o).op.cell? = some c) :
    (run (State.initial cfg progs) sched).sh.cells c = some a ∨
      ∃ w pp L, ((run (State.initial cfg progs) sched).th w).op.walkC? = some (a, pp) ∧
        ((run (State.initial cfg progs) sched).th w).op.cell? = some c ∧ pp.preHelp L n g := by
  obtain ⟨L, hL⟩ := (HazHAll.initial N T cfg progs).run sched he hf
  rcases hL.h.cand o n c g a lp hlp hcand hnode hcell with h | ⟨_, w, pp, h1, h2, h3⟩
  · exact Or.inl h
  · exact Or.inr ⟨w, pp, L, h1, h2, h3⟩

/-- **a confirmed helping slot protects its value**: while the reader holds its confirmed candidate
    in the helping slot of its node and has not taken its own reference yet, the value is in a
    container nobody is destroying, or a writer that took it out has the slot still ahead of its
    walk, or the reader is the destroyer of the container that holds it -/
theorem confirmed_hslot_protected (K N T : Nat) (cfg : Cfg) (progs : Nat → List (String × Op))
    (sched : List (Nat × Bool)) (he : EnvRun0 K N T (State.initial cfg progs) sched)
    (hf : (run (State.initial cfg progs) sched).sh.fault = none)
    (o n a : Nat) (lp : LP) (hlp : ((run (State.initial cfg progs) sched).th o).op.lp? = some lp)
    (hconf : lp.confirmed a) (hnode : ((run (State.initial cfg progs) sched).th o).loc.node = some n)
    (hs : ((run (State.initial cfg progs) sched).sh.nodes n).hslot = .ptr a) :
    (∃ c, c < N ∧ (run (State.initial cfg progs) sched).sh.cells c = some a ∧
        (run (State.initial cfg progs) sched).ctaken c = false) ∨
      (∃ w pp L, ((run (State.initial cfg progs) sched).th w).op.walkC? = some (a, pp) ∧ pp.ahead L n slotCnt) ∨
      (((run (State.initial cfg progs) sched).th o).op.cons = true ∧
        ∃ pp, ((run (State.initial cfg progs) sched).th o).op.walkC? = some (a, pp)) := by
  obtain ⟨L, hL⟩ := (HazHAll.initial N T cfg progs).run sched he hf
  rcases hL.h.haz o n a lp hlp hconf hnode hs with h | ⟨w, pp, h1, h2⟩ | h
  · exact Or.inl h
  · exact Or.inr (Or.inl ⟨w, pp, L, h1, h2⟩)
  · exact Or.inr (Or.inr h)

/-- thread 0 (fallback path only) creates a value and a container and loads from it; thread 1
    creates another value and stores it -/
def hazExH : State := State.initial { useFast := false } (fun t =>
  if t = 0 then [("new h0 5", .new 0 5), ("mk c0 h0", .mk 0 0), ("load c0 g0", .load 0 0)]
  else if t = 1 then [("new h1 6", .new 1 6), ("store c0 h1", .store 0 1)] else [])
def hazSchedH : List (Nat × Bool) := List.replicate 13 (0, false) ++ List.replicate 9 (1, false) ++ [(0, false)]

/-- non-vacuity: thread 0 reads its candidate (value 1) and publishes it in its helping slot;
    thread 1 then replaces the content of the container and starts its walk; thread 0 ends its
    window: it is about to take its own reference to value 1 (`fokInc 1`), which is in no container
    any more (the container holds 2) and is named by the helping slot of node 0; thread 1 is
    walking for value 1 and has not reached the list; no fault, no envelope -/
example : TameRun2 4 2 hazExH hazSchedH ∧ ((run hazExH hazSchedH).th 0).op.lp? = some (.fokInc 1) ∧
    ((run hazExH hazSchedH).th 0).loc.node = some 0 ∧ ((run hazExH hazSchedH).sh.nodes 0).hslot = .ptr 1 ∧
    (run hazExH hazSchedH).sh.cells 0 = some 2 ∧ (run hazExH hazSchedH).sh.fault = none ∧
    ((run hazExH hazSchedH).th 1).op.walkC? = some (1, .inc) ∧
    ((run hazExH hazSchedH).sh.nodes 0).control = .idle ∧ ((run hazExH hazSchedH).sh.nodes 1).control = .idle :=
  -- one evaluation of the execution by the kernel serves all clauses
  And.imp_left tameRun2_of_B (by decide +kernel)

end M
