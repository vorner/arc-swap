import ArcSwapModel.Inv.Own

/-!
# The node list: prepend-only, acyclic, never loses a node

`LIST_HEAD` and the `next` pointers form a chain without repetition; one step of any thread either
leaves it alone or prepends the node that thread had allocated (`Node::get`'s compare-exchange on
`LIST_HEAD`).  So every node once linked stays linked, at the same distance from the end, and a
traversal that follows `next` from any linked node terminates (C09) and meets every node that was
linked before it started (C01); the number of nodes only grows by prepending (C11).
-/

namespace M
open Consts

/-- the node a `Node::get` in progress has allocated and not linked yet -/
def NG.pend : NG → Option Nat
  | .allocCas (some k) _ => some k
  | _ => none

/-- how one step changes the list, seen from the stepping thread (`pn`: its pending node) -/
inductive ListStep (s : Shared) (pn : Option Nat) (s' : Shared) (pn' : Option Nat) : Prop
  | same (h : LSame s s') (hp : pn' = pn)
  /-- a node is allocated (or its `next` re-pointed) and stays private -/
  | priv (k : Nat) (hk : (pn = some k ∧ s'.nNodes = s.nNodes) ∨ (pn = none ∧ k = s.nNodes ∧ s'.nNodes = s.nNodes + 1))
      (hhead : s'.head = s.head) (hnext : ∀ m, m ≠ k → (s'.nodes m).next = (s.nodes m).next)
      (hp : pn' = some k)
  /-- the private node is prepended -/
  | link (k : Nat) (hk : (pn = some k ∧ s'.nNodes = s.nNodes) ∨ (pn = none ∧ k = s.nNodes ∧ s'.nNodes = s.nNodes + 1))
      (hhead : s'.head = some k) (hknext : (s'.nodes k).next = s.head)
      (hnext : ∀ m, m ≠ k → (s'.nodes m).next = (s.nodes m).next)
      (hp : pn' = none)

theorem stepNG_list (s : Shared) (b : Bool) (ng : NG) :
    ListStep s ng.pend (stepNG s b ng).1 (stepNG s b ng).2.1.pend := by
  cases ng with
  | trav => simp only [stepNG]; cases s.head <;> exact .same (.refl s) rfl
  | cc0 n => simp only [stepNG]; split <;> first | exact .same (.setNode _ _ _ (fun _ => rfl)) rfl | exact .same (.refl s) rfl
  | cc2 n idle =>
    simp only [stepNG]; split <;> first | exact .same (.setNode _ _ _ (fun _ => rfl)) rfl | exact .same (.setFault _ _) rfl
  | claim n =>
    simp only [stepNG]; split
    · exact .same (.setNode _ _ _ (fun _ => rfl)) rfl
    · simp only [NG.afterNode]; cases (s.nodes n).next <;> exact .same (.refl s) rfl
  | allocCas me h =>
    -- the node's `next` is set to the head read before; the compare-exchange on `LIST_HEAD` succeeds only if
    -- that is still the head
    cases me with
    | some k =>
      have hnext : ∀ m, m ≠ k → ((s.setNode k fun nd => { nd with next := h }).nodes m).next = (s.nodes m).next :=
        fun m hm => congrArg Node.next (setNode_nodes_other _ _ _ _ hm)
      have hk : ((s.setNode k fun nd => { nd with next := h }).nodes k).next = h := by rw [setNode_nodes_same]
      simp only [stepNG]; split
      · rename_i hc
        rw [Bool.and_eq_true] at hc
        exact .link k (.inl ⟨rfl, rfl⟩) rfl (hk.trans (of_decide_eq_true hc.2).symm) hnext rfl
      · exact .priv k (.inl ⟨rfl, rfl⟩) rfl hnext rfl
    | none =>
      have hnext : ∀ m, m ≠ s.nNodes →
          ((({ s with nNodes := s.nNodes + 1, nodes := upd s.nodes s.nNodes { spaceOffer := s.nNodes } } : Shared).setNode
            s.nNodes fun nd => { nd with next := h }).nodes m).next = (s.nodes m).next :=
        fun m hm => congrArg Node.next ((setNode_nodes_other _ _ _ _ hm).trans (upd_other _ _ _ _ hm))
      have hk : ((({ s with nNodes := s.nNodes + 1, nodes := upd s.nodes s.nNodes { spaceOffer := s.nNodes } } : Shared).setNode
          s.nNodes fun nd => { nd with next := h }).nodes s.nNodes).next = h := by rw [setNode_nodes_same]
      simp only [stepNG]; split
      · rename_i hc
        rw [Bool.and_eq_true] at hc
        exact .link s.nNodes (.inr ⟨rfl, rfl, rfl⟩) rfl (hk.trans (of_decide_eq_true hc.2).symm) hnext rfl
      · exact .priv s.nNodes (.inr ⟨rfl, rfl, rfl⟩) rfl hnext rfl
  | _ => exact .same (.refl s) rfl

theorem ListStep.cast {s s' : Shared} {p q p2 q2 : Option Nat} (h : ListStep s p s' q) (hp : p = p2) (hq : q = q2) :
    ListStep s p2 s' q2 := by subst hp hq; exact h

/-! ## The pending node of a thread -/

def LP.pend : LP → Option Nat
  | .get ng | .reget ng => ng.pend
  | _ => none

def PP.pend : PP → Option Nat
  | .get ng => ng.pend
  | .hload _ ld => ld.pend
  | _ => none

def CP.pend : CP → Option Nat
  | .load ld => ld.pend
  | .pay _ pp => pp.pend
  | _ => none

def RP.pend : RP → Option Nat
  | .load ld => ld.pend
  | .cas _ _ cp => cp.pend
  | _ => none

def OpSt.pend : OpSt → Option Nat
  | .load _ _ ld | .loadFull _ _ ld => ld.pend
  | .swapPay _ _ _ _ pp | .cinto _ _ _ pp | .dropc _ _ pp => pp.pend
  | .cas _ _ _ _ _ _ cp => cp.pend
  | .rcu _ _ _ rp => rp.pend
  | _ => none

theorem LP.pend_eq (lp : LP) : lp.pend = lp.nodeOp.via NG.pend := by cases lp <;> rfl
theorem PP.pend_eq (pp : PP) : pp.pend = pp.nodeOp.via NG.pend := by cases pp <;> first | rfl | exact LP.pend_eq _
theorem CP.pend_eq (cp : CP) : cp.pend = cp.nodeOp.via NG.pend := by
  cases cp <;> first | rfl | exact LP.pend_eq _ | exact PP.pend_eq _
theorem RP.pend_eq (rp : RP) : rp.pend = rp.nodeOp.via NG.pend := by
  cases rp <;> first | rfl | exact LP.pend_eq _ | exact CP.pend_eq _
theorem OpSt.pend_eq (op : OpSt) : op.pend = op.nodeOp.via NG.pend := by
  cases op <;> first | rfl | exact LP.pend_eq _ | exact PP.pend_eq _ | exact CP.pend_eq _ | exact RP.pend_eq _

theorem ListStep.core {s s1 s2 : Shared} {p q : Option Nat} (h : ListStep s p s1 q) (hc : CoreEq s1 s2) :
    ListStep s p s2 q := by
  cases h with
  | same h hp => exact .same (h.trans (.of_eq hc.head hc.nodes hc.nNodes)) hp
  | priv k hk hhead hnext hp => exact .priv k (hc.nNodes ▸ hk) (hc.head.trans hhead) (fun m hm => by rw [hc.nodes]; exact hnext m hm) hp
  | link k hk hhead hknext hnext hp =>
    exact .link k (hc.nNodes ▸ hk) (hc.head.trans hhead) (by rw [hc.nodes]; exact hknext) (fun m hm => by rw [hc.nodes]; exact hnext m hm) hp

theorem microStep_list (st : State) (t : Nat) (b : Bool) :
    ListStep st.sh (st.th t).op.pend (microStep st t b).1.sh ((microStep st t b).1.th t).op.pend := by
  rw [OpSt.pend_eq, OpSt.pend_eq]
  cases microStep_nodeStep st t b with
  | get ng ho hs hl ho' =>
    rw [ho, ho']
    exact ((stepNG_list st.sh b ng).core hs).cast rfl (by cases (stepNG st.sh b ng).2.1 <;> rfl)
  | cool cd ho hs ho' =>
    rw [ho]
    refine .same ((stepCD_lsame st.sh cd).trans (.of_eq hs.head hs.nodes hs.nNodes)) ?_
    rcases ho' with ⟨e, _⟩ | ⟨_, ⟨e, _⟩ | ⟨e, _⟩⟩ <;> rw [e] <;> rfl
  | other ho hq hl ho' =>
    rw [ho]
    refine .same hq.list ?_
    rcases ho' with e | ⟨e, _⟩ | ⟨n, e, _⟩ <;> rw [e] <;> rfl

/-! ## The invariant -/

/-- the node a thread is about to link is a node it owns -/
theorem owns_of_pend (th : Thread) (k : Nat) (h : th.op.pend = some k) : ownsT th = some k := by
  rw [OpSt.pend_eq] at h
  rw [ownsT_eq]
  cases hop : th.op.nodeOp with
  | get ng =>
    rw [hop] at h
    cases ng with
    | allocCas me hd => cases me <;> cases h; rfl
    | _ => cases h
  | _ => rw [hop] at h; cases h

/-- `L` is the list: from `hd`, following `next`, without repetition, to the end -/
def chainFrom (next : Nat → Option Nat) : Option Nat → List Nat → Prop
  | none, [] => True
  | some n, m :: L => n = m ∧ n ∉ L ∧ chainFrom next (next n) L
  | _, _ => False

/-- `next` of nodes outside the chain does not matter -/
theorem chainFrom_congr {next next' : Nat → Option Nat} {hd : Option Nat} {L : List Nat}
    (h : chainFrom next hd L) (he : ∀ n, n ∈ L → next' n = next n) : chainFrom next' hd L := by
  induction L generalizing hd with
  | nil => cases hd <;> exact h
  | cons m L ih =>
    cases hd with
    | none => exact h
    | some n =>
      obtain ⟨h1, h2, h3⟩ := h
      subst h1
      refine ⟨rfl, h2, ?_⟩
      rw [he n (List.mem_cons_self ..)]
      exact ih h3 (fun x hx => he x (List.mem_cons_of_mem _ hx))

def nextOf (s : Shared) : Nat → Option Nat := fun n => (s.nodes n).next

/-- **the list invariant**: head and `next` form a chain without repetition over existing nodes,
    and no thread's not-yet-linked node is on it -/
def ListInv (st : State) (L : List Nat) : Prop :=
  chainFrom (nextOf st.sh) st.sh.head L ∧ (∀ n, n ∈ L → n < st.sh.nNodes) ∧
    ∀ t k, (st.th t).op.pend = some k → k ∉ L

theorem ListInv.initial (cfg : Cfg) (progs : Nat → List (String × Op)) : ListInv (State.initial cfg progs) [] := by
  refine ⟨trivial, ?_, ?_⟩
  · intro n h; cases h
  · intro t k _ h; cases h

/-- **one step: the list stays, or the stepping thread's node is prepended** -/
theorem ListInv.step {st : State} {L : List Nat} (h : ListInv st L) (ho : OwnInv st) (t : Nat) (b : Bool) :
    ListInv (microStep st t b).1 L ∨ ∃ k, k ∉ L ∧ ListInv (microStep st t b).1 (k :: L) := by
  obtain ⟨hc, hlt, hp⟩ := h
  have hoth : ∀ t', t' ≠ t → (microStep st t b).1.th t' = st.th t' := fun _ h => microStep_th_other st t b h
  have pend_others : ∀ t' k, t' ≠ t → ((microStep st t b).1.th t').op.pend = some k → k ∉ L := by
    intro t' k ht hk; rw [hoth t' ht] at hk; exact hp t' k hk
  -- a node that is pending before or fresh is not on the list
  have priv_notin : ∀ (k : Nat) (s' : Shared), (((st.th t).op.pend = some k ∧ s'.nNodes = st.sh.nNodes) ∨
      ((st.th t).op.pend = none ∧ k = st.sh.nNodes ∧ s'.nNodes = st.sh.nNodes + 1)) →
      k ∉ L ∧ st.sh.nNodes ≤ s'.nNodes ∧ k < s'.nNodes := by
    intro k s' hk
    rcases hk with ⟨hk, e⟩ | ⟨_, rfl, e⟩
    · exact ⟨hp t k hk, by omega, by rw [e]; exact ho.lt t k (owns_of_pend _ k hk)⟩
    · exact ⟨fun hin => Nat.lt_irrefl _ (hlt _ hin), by omega, by omega⟩
  cases microStep_list st t b with
  | same hs hpn =>
    left
    refine ⟨?_, fun n hn => by rw [hs.2.2]; exact hlt n hn, fun t' k hk => ?_⟩
    · rw [hs.1]; exact chainFrom_congr hc (fun n _ => hs.2.1 n)
    · by_cases ht : t' = t
      · subst ht; rw [hpn] at hk; exact hp t' k hk
      · exact pend_others t' k ht hk
  | priv k hk hhead hnext hpn =>
    left
    obtain ⟨hkL, hmono, _⟩ := priv_notin k _ hk
    refine ⟨?_, fun n hn' => Nat.lt_of_lt_of_le (hlt n hn') hmono, fun t' k' hk' => ?_⟩
    · rw [hhead]
      exact chainFrom_congr hc (fun n hn' => hnext n (fun e => hkL (e ▸ hn')))
    · by_cases ht : t' = t
      · subst ht; rw [hpn] at hk'; cases hk'; exact hkL
      · exact pend_others t' k' ht hk'
  | link k hk hhead hknext hnext hpn =>
    right
    obtain ⟨hkL, hmono, hklt⟩ := priv_notin k _ hk
    refine ⟨k, hkL, ⟨?_, fun n hn' => ?_, fun t' k' hk' => ?_⟩⟩
    · rw [hhead]
      refine ⟨rfl, hkL, ?_⟩
      show chainFrom (nextOf (microStep st t b).1.sh) ((microStep st t b).1.sh.nodes k).next L
      rw [hknext]
      exact chainFrom_congr hc (fun n hn' => hnext n (fun e => hkL (e ▸ hn')))
    · rcases List.mem_cons.mp hn' with e | e
      · subst e; exact hklt
      · exact Nat.lt_of_lt_of_le (hlt n e) hmono
    · by_cases ht : t' = t
      · subst ht; rw [hpn] at hk'; cases hk'
      · have h1 := pend_others t' k' ht hk'
        intro hin
        rcases List.mem_cons.mp hin with e | e
        · -- two threads would own `k`
          subst e
          rw [hoth t' ht] at hk'
          have o1 : ownsT (st.th t') = some k' := owns_of_pend _ _ hk'
          rcases hk with ⟨hk, _⟩ | ⟨_, hk2, _⟩
          · exact ho.excl t' t k' ht o1 (owns_of_pend _ _ hk)
          · have := ho.lt t' k' o1; omega
        · exact h1 e

/-- **prepend-only**: along any execution the list only grows at the front -/
theorem ListInv.run {st : State} {L : List Nat} (h : ListInv st L) (ho : OwnInv st) (sched : List (Nat × Bool)) :
    ∃ pre, ListInv (run st sched) (pre ++ L) := by
  induction sched generalizing st L with
  | nil => exact ⟨[], h⟩
  | cons x rest ih =>
    obtain ⟨t, b⟩ := x
    rcases h.step ho t b with h1 | ⟨k, _, h1⟩
    · exact ih h1 (ho.step t b)
    · obtain ⟨pre, hpre⟩ := ih h1 (ho.step t b)
      exact ⟨pre ++ [k], by rw [List.append_assoc]; exact hpre⟩

/-- in every reachable state the nodes form a list -/
theorem ListInv.reachable {st : State} (h : Reachable st) : ∃ L, ListInv st L := by
  obtain ⟨cfg, progs, sched, rfl⟩ := h
  obtain ⟨pre, hpre⟩ := (ListInv.initial cfg progs).run (OwnInv.initial cfg progs) sched
  exact ⟨pre ++ [], hpre⟩

/-- the chain has no repetition: the list is acyclic -/
theorem chainFrom_nodup {next : Nat → Option Nat} {hd : Option Nat} {L : List Nat} (h : chainFrom next hd L) : L.Nodup := by
  induction L generalizing hd with
  | nil => exact List.nodup_nil
  | cons m L ih =>
    cases hd with
    | none => exact h.elim
    | some n =>
      obtain ⟨h1, h2, h3⟩ := h
      subst h1
      exact List.nodup_cons.mpr ⟨h2, ih h3⟩

/-- following `next` from a node on the list stays on the list, strictly closer to the end: a
    traversal from any linked node terminates after at most `L.length` steps -/
theorem chainFrom_next {next : Nat → Option Nat} {hd : Option Nat} {L : List Nat} (h : chainFrom next hd L)
    (n : Nat) (hn : n ∈ L) : ∃ L1 L2, L = L1 ++ n :: L2 ∧ chainFrom next (next n) L2 := by
  induction L generalizing hd with
  | nil => cases hn
  | cons m L ih =>
    cases hd with
    | none => exact h.elim
    | some x =>
      obtain ⟨h1, h2, h3⟩ := h
      subst h1
      rcases List.mem_cons.mp hn with e | e
      · subst e; exact ⟨[], L, rfl, h3⟩
      · obtain ⟨L1, L2, e1, e2⟩ := ih h3 e
        exact ⟨x :: L1, L2, by rw [e1]; rfl, e2⟩

/-- the list never holds more nodes than were ever named -/
theorem ListInv.length_le {st : State} {L : List Nat} (h : ListInv st L) : L.length ≤ st.sh.nNodes := by
  have hnd := chainFrom_nodup h.1
  have hlt := h.2.1
  clear h
  generalize st.sh.nNodes = N at hlt
  induction N generalizing L with
  | zero =>
    cases L with
    | nil => exact Nat.le_refl _
    | cons x L => exact absurd (hlt x (List.mem_cons_self ..)) (Nat.not_lt_zero _)
  | succ k ih =>
    -- remove `k` (at most once) from the list
    have hl := ih (L := L.erase k) (hnd.erase k) (fun n hn => by
      have h1 := hlt n (List.mem_of_mem_erase hn)
      have h2 : n ≠ k := fun e => by subst e; exact (List.Nodup.not_mem_erase hnd) hn
      omega)
    have := List.length_erase_le (a := k) (l := L)
    by_cases hk : k ∈ L
    · rw [List.length_erase_of_mem hk] at hl; omega
    · rw [List.erase_of_not_mem hk] at hl; omega

end M
