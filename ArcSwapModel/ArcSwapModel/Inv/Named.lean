import ArcSwapModel.Inv.Linked
import ArcSwapModel.Inv.Probe

/-!
# A fast slot that names a value is a slot of a node on the list
-/

namespace M
open Consts

structure NamedLinked (st : State) (L : List Nat) : Prop where
  linked : Linked st L
  named : ∀ n i, (st.sh.nodes n).fast i ≠ .none → n ∈ L

theorem NamedLinked.initial (cfg : Cfg) (progs : Nat → List (String × Op)) : NamedLinked (State.initial cfg progs) [] :=
  ⟨Linked.initial cfg progs, fun _ _ h => absurd rfl h⟩

theorem NamedLinked.step {st : State} {L : List Nat} (h : NamedLinked st L) (ho : OwnInv st) (hn : NodeInv st)
    (t : Nat) (b : Bool) : ∃ pre, NamedLinked (microStep st t b).1 (pre ++ L) := by
  obtain ⟨pre, hpre⟩ := h.linked.step ho t b
  refine ⟨pre, hpre, fun n i hne => ?_⟩
  have hfill := microStep_fill st t b hn.nodes.slots (hn.th t)
  by_cases hb : (st.sh.nodes n).fast i = .none
  · rcases hfill n i hb with h1 | ⟨h2, _⟩
    · exact absurd h1 hne
    · exact List.mem_append_right _ (h.linked.node t n h2)
  · exact List.mem_append_right _ (h.named n i hb)

theorem NamedLinked.reachable {st : State} (h : Reachable st) : ∃ L, NamedLinked st L := by
  refine h.induct (P := fun st => ∃ L, NamedLinked st L) (fun cfg progs => ⟨[], NamedLinked.initial cfg progs⟩) ?_
  intro st t b hr ⟨L, hL⟩
  obtain ⟨pre, hpre⟩ := hL.step (OwnInv.reachable hr) (NodeInv.reachable hr) t b
  exact ⟨pre ++ L, hpre⟩

end M
