import ArcSwapModel.Inv.HazD2

/-!
# The hazard invariant along executions that create and destroy containers
-/

namespace M
open Consts

/-- an execution of threads below `T` whose operations use registers and cells below `N` and
    create containers on fresh cells only -/
def TameRun2 (N T : Nat) : State → List (Nat × Bool) → Prop
  | _, [] => True
  | st, (t, b) :: rest => t < T ∧ Tame2 N st t ∧ TameRun2 N T (microStep st t b).1 rest

structure HazAllD (N T : Nat) (st : State) (L : List Nat) : Prop where
  haz : HazInvD N st L
  own : OwnInv st
  node : NodeInv st
  walk : WalkNodeC st
  cx : ∀ t, (st.th t).op.cxok
  busy : BusyInv N T st

theorem HazAllD.initial (N T : Nat) (cfg : Cfg) (progs : Nat → List (String × Op)) : HazAllD N T (State.initial cfg progs) [] :=
  ⟨HazInvD.initial N cfg progs, OwnInv.initial cfg progs, NodeInv.initial cfg progs,
   (fun t a pp hw => by cases hw), (fun _ => trivial), BusyInv.initial N T cfg progs⟩

theorem HazAllD.step {N T : Nat} {st : State} {L : List Nat} (h : HazAllD N T st L) (t : Nat) (ht : t < T) (b : Bool)
    (htame : Tame2 N st t) : ∃ pre, HazAllD N T (microStep st t b).1 (pre ++ L) := by
  obtain ⟨pre, hpre⟩ := h.haz.step h.own h.node h.walk h.cx h.busy t b htame
  refine ⟨pre, hpre, h.own.step t b, h.node.step t b, h.walk.step t b, fun u => ?_, h.busy.step h.cx t ht b htame⟩
  by_cases e : u = t
  · subst e; exact microStep_cxok st u b (h.cx u)
  · rw [microStep_th_other st t b e]; exact h.cx u

theorem HazAllD.run {N T : Nat} {st : State} {L : List Nat} (h : HazAllD N T st L) (sched : List (Nat × Bool))
    (ht : TameRun2 N T st sched) : ∃ L', HazAllD N T (run st sched) L' := by
  induction sched generalizing st L with
  | nil => exact ⟨L, h⟩
  | cons x rest ih =>
    obtain ⟨t, b⟩ := x
    obtain ⟨pre, hpre⟩ := h.step t ht.1 b ht.2.1
    exact ih hpre ht.2.2

/-- **a confirmed slot protects the value it names** — along every execution of threads that use
    registers and cells below `N` and create containers on fresh cells only; containers may be
    consumed and dropped.  A fast slot that names `a`, and that its owner is not still confirming
    or taking back, has `a` still stored in a container that nobody is destroying; or a thread that
    took `a` out of a container, or is destroying the container that holds it, is walking the list
    and has this slot still ahead of it; or it is the debt of the guard a destroyer loaded while
    helping (the container it is destroying still holds `a`). -/
theorem confirmed_slot_protected (N T : Nat) (cfg : Cfg) (progs : Nat → List (String × Op)) (sched : List (Nat × Bool))
    (ht : TameRun2 N T (State.initial cfg progs) sched) (n i a : Nat) (hi : i < slotCnt)
    (hs : ((run (State.initial cfg progs) sched).sh.nodes n).fast i = .ptr a)
    (hconf : ∀ o, ((run (State.initial cfg progs) sched).th o).loc.node = some n →
      ¬ Unc ((run (State.initial cfg progs) sched).th o).op.lp? a i) :
    (∃ c, c < N ∧ (run (State.initial cfg progs) sched).sh.cells c = some a ∧
        (run (State.initial cfg progs) sched).ctaken c = false) ∨
      (∃ w pp L, ((run (State.initial cfg progs) sched).th w).op.walkC? = some (a, pp) ∧ pp.ahead L n i) ∨
      (∃ o, ((run (State.initial cfg progs) sched).th o).op.consHold n i a) := by
  obtain ⟨L, hL⟩ := (HazAllD.initial N T cfg progs).run sched ht
  rcases hL.haz.haz n i a hi hs with h | ⟨w, pp, h1, h2⟩ | ⟨o, h1, h2⟩ | h
  · exact Or.inl h
  · exact Or.inr (Or.inl ⟨w, pp, L, h1, h2⟩)
  · exact absurd h2 (hconf o h1)
  · exact Or.inr (Or.inr h)

/-- **the value a confirmed slot names is alive**, also along executions that consume and drop
    containers -/
theorem confirmed_slot_value_alive (K N T : Nat) (hK : 0 < K) (cfg : Cfg) (progs : Nat → List (String × Op))
    (sched : List (Nat × Bool)) (he : EnvRun0 K N T (State.initial cfg progs) sched)
    (ht : TameRun2 N T (State.initial cfg progs) sched)
    (hf : (run (State.initial cfg progs) sched).sh.fault = none) (a : Nat) (ha : a ≠ 0)
    (n i : Nat) (hi : i < slotCnt) (hs : ((run (State.initial cfg progs) sched).sh.nodes n).fast i = .ptr a)
    (hconf : ∀ o, ((run (State.initial cfg progs) sched).th o).loc.node = some n →
      ¬ Unc ((run (State.initial cfg progs) sched).th o).op.lp? a i) :
    1 ≤ ((run (State.initial cfg progs) sched).sh.heap a).cnt ∧
      ((run (State.initial cfg progs) sched).sh.heap a).live = true := by
  obtain ⟨L, hL⟩ := (HazAllD.initial N T cfg progs).run sched ht
  have of_cons : ∀ o c, ((run (State.initial cfg progs) sched).th o).op.consWalk c a →
      1 ≤ ((run (State.initial cfg progs) sched).sh.heap a).cnt := by
    intro o c hcw
    obtain ⟨hcons, hcell⟩ := OpSt.consWalk_cons hcw
    exact stored_value_counted K N T hK cfg progs sched he hf a ha c (hL.busy.consN o c hcons hcell)
      (hL.busy.ccell o c a hcw)
  have hcnt : 1 ≤ ((run (State.initial cfg progs) sched).sh.heap a).cnt := by
    rcases confirmed_slot_protected N T cfg progs sched ht n i a hi hs hconf with ⟨c, hc, hcell, _⟩ | ⟨w, pp, _, hw, _⟩ | ⟨o, hd⟩
    · exact stored_value_counted K N T hK cfg progs sched he hf a ha c hc hcell
    · rcases OpSt.walkC_cases hw with hw' | ⟨c, hcw, _⟩
      · exact walked_value_counted K N T hK cfg progs sched he hf a ha w pp hw'
      · exact of_cons w c hcw
    · obtain ⟨c, _, _, _, _, hd⟩ := hd
      exact of_cons o c (OpSt.destroys.consWalk hd)
  exact ⟨hcnt, HeapOk.reachable ⟨cfg, progs, sched, rfl⟩ a hcnt⟩

/-- the ledger's assumptions include the tameness of the execution -/
theorem TameRun2.of_env {K N T : Nat} {st : State} {sched : List (Nat × Bool)} (h : EnvRun0 K N T st sched) :
    TameRun2 N T st sched := by
  induction sched generalizing st with
  | nil => trivial
  | cons x rest ih =>
    obtain ⟨t, b⟩ := x
    obtain ⟨ht, h1, hrest⟩ := h
    exact ⟨ht, fun _ txt o rest' hp => h1.next txt o rest' hp, ih hrest⟩

end M
