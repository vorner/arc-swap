import ArcSwapModel.Inv.HazD1

/-!
# The hazard invariant, with container destruction

Four ways a fast slot that names `a` is covered: `a` is still in a container that nobody is
destroying; a thread that took `a` out — or is about to, destroying its container — is walking the
list and has the slot ahead of it; the owner has not confirmed the slot yet; or the slot is the
debt of the guard a destroyer has just loaded while helping and is promoting (the container it is
destroying still holds `a`).
-/

namespace M
open Consts

/-- the guard a destroyer loaded while helping, being promoted: it holds slot `(n, i)` for `a`,
    the value of the container being destroyed -/
def OpSt.consHold (op : OpSt) (n i a : Nat) : Prop :=
  ∃ c h r gi, gi.holds n i a ∧ ((∃ x, op = .cinto c x a (.hinto h r gi)) ∨ op = .dropc c a (.hinto h r gi))

structure HazInvD (N : Nat) (st : State) (L : List Nat) : Prop where
  named : NamedLinked st L
  haz : ∀ n i a, i < slotCnt → (st.sh.nodes n).fast i = .ptr a →
    (∃ c, c < N ∧ st.sh.cells c = some a ∧ st.ctaken c = false) ∨
      (∃ w pp, (st.th w).op.walkC? = some (a, pp) ∧ pp.ahead L n i) ∨
      (∃ o, (st.th o).loc.node = some n ∧ Unc (st.th o).op.lp? a i) ∨
      (∃ o, (st.th o).op.consHold n i a)

theorem HazInvD.initial (N : Nat) (cfg : Cfg) (progs : Nat → List (String × Op)) : HazInvD N (State.initial cfg progs) [] :=
  ⟨NamedLinked.initial cfg progs, fun n i a _ h => by simp [State.initial] at h⟩

theorem cons_lp_shape {op : OpSt} {lp : LP} (hc : op.cons = true) (h : op.lp? = some lp) :
    ∃ c p hh, (∃ x, op = .cinto c x p (.hload hh lp)) ∨ op = .dropc c p (.hload hh lp) := by
  cases op with
  | cinto c x p pp =>
    cases pp <;> first | (cases h; done) | skip
    rename_i hh ld
    simp only [OpSt.lp?, PP.lp?, Option.some.injEq] at h; subst h
    exact ⟨c, p, hh, Or.inl ⟨x, rfl⟩⟩
  | dropc c p pp =>
    cases pp <;> first | (cases h; done) | skip
    rename_i hh ld
    simp only [OpSt.lp?, PP.lp?, Option.some.injEq] at h; subst h
    exact ⟨c, p, hh, Or.inr rfl⟩
  | dropcDec c p => cases h
  | _ => cases hc

theorem stepLP_a3 (cfg : Cfg) (c : Nat) (s : Shared) (l : Locals) (b : Bool) (a i q : Nat) (hq : s.cells c = some q) :
    (stepLP cfg c s l b (.a3 a i)).1 = s ∧ (stepLP cfg c s l b (.a3 a i)).2.1 = l ∧
      (stepLP cfg c s l b (.a3 a i)).2.2.1 = if q = a then .done a (some (l.node.getD 0, i)) else .a4 a i := by
  simp only [stepLP, hq, and_self]

theorem HazInvD.step {N T : Nat} {st : State} {L : List Nat} (h : HazInvD N st L) (ho : OwnInv st) (hn : NodeInv st)
    (hw : WalkNodeC st) (hx : ∀ t, (st.th t).op.cxok) (hb : BusyInv N T st)
    (t : Nat) (b : Bool) (htame : Tame2 N st t) : ∃ pre, HazInvD N (microStep st t b).1 (pre ++ L) := by
  obtain ⟨pre, hpre⟩ := h.named.step ho hn t b
  refine ⟨pre, hpre, fun n i a hi hs' => ?_⟩
  have hoth : ∀ u, u ≠ t → (microStep st t b).1.th u = st.th u := fun u => microStep_th_other st t b
  -- `ctaken` stays, unless the stepping thread begins to destroy a container
  have hct : ∀ c a, st.sh.cells c = some a → st.ctaken c = false →
      (microStep st t b).1.ctaken c = false ∨ ((microStep st t b).1.th t).op.walkC? = some (a, .start) := by
    intro c a hca hnt
    rcases microStep_ctaken st t b with h1 | ⟨hidle, c2, hc2, hcons⟩
    · left; rw [h1]; exact hnt
    · rcases microStep_cellq2 st t b c2 hc2 with ⟨h2, _⟩ | ⟨_, _, _, _, _, _, h7⟩
      · rw [hidle] at h2; cases h2
      · obtain ⟨_, h9, p, hp, hor⟩ := h7 hcons
        by_cases e : c = c2
        · subst e
          right
          rw [hca] at hp; cases hp
          exact OpSt.destroys.walkC hor
        · left; rw [h9, upd_other _ _ _ _ e]; exact hnt
  rcases microStep_slot st t b hn.nodes.slots (hn.th t) n i with e | e | ⟨hnode, p, hlp⟩
  · -- the slot is as it was
    have hs : (st.sh.nodes n).fast i = .ptr a := by rw [← e]; exact hs'
    have hnL : n ∈ L := h.named.named n i (by rw [hs]; exact Val.noConfusion)
    rcases h.haz n i a hi hs with ⟨c, hcN, hc, hnt⟩ | ⟨w, pp, hw1, hah⟩ | ⟨o, ho1, hu⟩ | ⟨o, hd⟩
    · -- the value is in a container
      rcases hct c a hc hnt with hnt' | hstart
      · by_cases hcc : (st.th t).op.cell? = some c
        · -- the thread works on this container and is not destroying it
          have hcb : (st.th t).op.cons = false := Bool.eq_false_iff.mpr (fun hcb => by
            have := hb.taken t c hcb hcc; rw [hnt] at this; cases this)
          rcases microStep_cells (N := N) st t b (hx t) (fun e' => by rw [e'] at hcc; cases hcc) hcb c a hc with h1 | ⟨h1, _⟩
          · exact Or.inl ⟨c, hcN, h1, hnt'⟩
          · exact Or.inr (Or.inl ⟨t, .start, OpSt.walkC_of_walk h1, PP.ahead_start _ n i⟩)
        · have hcell : (microStep st t b).1.sh.cells c = st.sh.cells c :=
            microStep_cells_other st t b c hcc (fun hidle txt x rest hp => by
              have := (htame hidle txt _ rest hp).2 c x rfl
              rw [hc] at this; cases this)
          exact Or.inl ⟨c, hcN, by rw [hcell]; exact hc, hnt'⟩
      · exact Or.inr (Or.inl ⟨t, .start, hstart, PP.ahead_start _ n i⟩)
    · -- a walk has the slot ahead
      by_cases ew : w = t
      · subst ew
        obtain ⟨c, hnodes, _, hor, _⟩ := microStep_walkC_fwd st w b a pp hw1
        rcases ahead_step st.cfg a c st.sh (st.th w).loc b pp L h.named.linked.list.1 n i hnL hi (hw w a pp hw1) hah with h2 | h2
        · rcases hor with h3 | h3
          · exact Or.inr (Or.inl ⟨w, _, h3, h2.prepend pre⟩)
          · rw [h3] at h2; exact absurd h2 (PP.not_ahead_done L n i)
        · -- the walk is at this slot: it clears it
          subst h2
          rw [hnodes] at hs'
          simp only [stepPP, hi, ↓reduceIte, hs, setNode_nodes_same, upd_same, reduceCtorEq] at hs'
      · exact Or.inr (Or.inl ⟨w, pp, by rw [hoth w ew]; exact hw1, hah.prepend pre⟩)
    · -- the owner has not confirmed yet
      by_cases eo : o = t
      · subst eo
        have e0 : (st.th o).loc.node.getD 0 = n := by rw [ho1]; rfl
        rcases hu with hu | hu
        · -- it re-reads the container
          cases hcb : (st.th o).op.cons with
          | false =>
            obtain ⟨c, hcell, hnodes, hcells, hloc, hor⟩ := microStep_lp st o b _ hu
            have hkeep : (microStep st o b).1.ctaken = st.ctaken :=
              (microStep_ctaken st o b).resolve_right (fun ⟨h1, _⟩ => by rw [h1] at hu; cases hu)
            obtain ⟨hcne, hcN, hnt⟩ := hb.free o c hcell hcb
            obtain ⟨q, hq⟩ := Option.ne_none_iff_exists'.mp hcne
            obtain ⟨e1, e2, e3⟩ := stepLP_a3 st.cfg c st.sh (st.th o).loc b a i q hq
            rw [e1] at hcells; rw [e2] at hloc; rw [e3] at hor
            by_cases eq : q = a
            · subst eq
              exact Or.inl ⟨c, hcN, by rw [hcells]; exact hq, by rw [hkeep]; exact hnt⟩
            · rw [if_neg eq] at hor
              refine Or.inr (Or.inr (Or.inl ⟨o, by rw [hloc]; exact ho1, Or.inr ?_⟩))
              exact hor.resolve_right (fun ⟨_, _, h3⟩ => LP.noConfusion h3)
          | true =>
            -- the reader is a destroyer that is helping: the container it destroys still holds the value
            obtain ⟨c0, p, hh, hd⟩ := cons_lp_shape hcb hu
            have hcp := hb.ccell o c0 p (OpSt.destroys.consWalk hd)
            obtain ⟨_, hloc, hor⟩ := microStep_destroys st o b hd
            obtain ⟨_, e2, e3⟩ := stepLP_a3 st.cfg c0 st.sh (st.th o).loc b a i p hcp
            rw [stepPP_hload, e2] at hloc
            rw [stepPP_hload, e3] at hor
            by_cases eq : p = a
            · subst eq
              have hgi : (GI.ofGuard { ptr := p, debt := some ((st.th o).loc.node.getD 0, i) }).holds n i p := by
                rw [e0]; simp only [GI.ofGuard]; split <;> exact ⟨rfl, rfl, rfl⟩
              have hne : GI.ofGuard { ptr := p, debt := some ((st.th o).loc.node.getD 0, i) } ≠ .done := fun e' => by
                rw [e'] at hgi; exact hgi
              simp only [↓reduceIte, PP.afterLoad, hne] at hor
              exact Or.inr (Or.inr (Or.inr ⟨o, c0, hh, p, _, hgi, hor.resolve_right (fun h3 => PP.noConfusion h3.1)⟩))
            · simp only [eq, ↓reduceIte, PP.afterLoad] at hor
              have hd' := hor.resolve_right (fun h3 => PP.noConfusion h3.1)
              exact Or.inr (Or.inr (Or.inl ⟨o, by rw [hloc]; exact ho1, Or.inr hd'.lp⟩))
        · -- it takes the slot back
          obtain ⟨c, _, hnodes, _⟩ := microStep_lp st o b _ hu
          rw [hnodes] at hs'
          simp only [stepLP, e0, hs, ↓reduceIte, setNode_nodes_same, upd_same, reduceCtorEq] at hs'
      · exact Or.inr (Or.inr (Or.inl ⟨o, by rw [hoth o eo]; exact ho1, by rw [hoth o eo]; exact hu⟩))
    · -- a destroyer is promoting the guard it loaded while helping
      by_cases eo : o = t
      · subst eo
        obtain ⟨c, hh, r, gi, hg, hd⟩ := hd
        obtain ⟨hc, _, hor⟩ := microStep_destroys st o b hd
        rw [stepPP_hinto] at hor
        cases gi with
        | inc p n' i' =>
          refine Or.inr (Or.inr (Or.inr ⟨o, c, hh, r, .pay p n' i', hg, ?_⟩))
          exact hor.resolve_right (fun h3 => PP.noConfusion h3.1)
        | pay p n' i' =>
          -- the promotion pays the debt: the slot is cleared
          obtain ⟨rfl, rfl, rfl⟩ := hg
          rw [hc.nodes, stepPP_hinto] at hs'
          simp only [stepGI, hs, ↓reduceIte, setNode_nodes_same, upd_same, reduceCtorEq] at hs'
        | dec p => exact hg.elim
        | done => exact hg.elim
      · exact Or.inr (Or.inr (Or.inr ⟨o, by rw [hoth o eo]; exact hd⟩))
  · rw [e] at hs'; cases hs'
  · -- the owner has just written the slot
    obtain ⟨c, hcell, hnodes, hcells, hloc, hor⟩ := microStep_lp st t b _ hlp
    have e0 : (st.th t).loc.node.getD 0 = n := by rw [hnode]; rfl
    have hpa : p = a := by
      rw [hnodes] at hs'
      simp only [stepLP, e0, ite_setFault_nodes, setNode_nodes_same, upd_same, Val.ptr.injEq] at hs'
      exact hs'
    subst hpa
    refine Or.inr (Or.inr (Or.inl ⟨t, ?_, Or.inl ?_⟩))
    · rw [hloc]; simp only [stepLP, hnode]
    · rcases hor with h3 | ⟨q', d, h3⟩
      · rw [h3]; simp only [stepLP]
      · simp only [stepLP, reduceCtorEq] at h3

end M
