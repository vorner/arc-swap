import ArcSwapModel.Inv.AcctRun
import ArcSwapModel.M.Upd

/-!
# The local well-formedness assumed by the conservation theorems is invariant

`ok` of every sub-machine is preserved by its step (given the thread's node index is below `K` and,
on the read path, that the control word is not an envelope: the hand-over exclusion), guards that
come out of a load are well-formed, and so are all guards in the registers.  A hosting state is `ok`
when the hosted machine is, so each hosting case is the inner lemma carried through the host's
continuation (`PP.afterLoad_ok`, …).
-/

namespace M
open Consts

-- `slotCnt` is read from the generated constants table; unfolding it (which `split` and `exact` attempt
-- on goals that mention `j < slotCnt`) is slow, and nothing here depends on its value.
attribute [local irreducible] Consts.slotCnt

theorem GD.ok_step (K : Nat) (s : Shared) (gd : GD) : (stepGD s gd).2.1.ok K := by
  cases gd <;> simp only [stepGD] <;> (repeat' split) <;> trivial

theorem GI.ofGuard_ok (K : Nat) (g : Guard) (h : g.ok K) : (GI.ofGuard g).ok K g.ptr := by
  unfold GI.ofGuard
  cases hd : g.debt with
  | none => trivial
  | some nd =>
    obtain ⟨n, idx⟩ := nd
    have := h n idx hd
    dsimp only; split <;> exact ⟨this.1, this.2, rfl⟩

theorem Guard.ok_none (K p : Nat) : ({ ptr := p, debt := none } : Guard).ok K := fun n idx h => by cases h

theorem LP.done_guard_ok (K p : Nat) (d : Option (Nat × Nat)) (h : (LP.done p d).ok K) :
    ({ ptr := p, debt := d } : Guard).ok K := h

theorem PP.dispatch_ok (K : Nat) (h : HL) : (PP.dispatch h).ok K := by unfold PP.dispatch; split <;> trivial

theorem PP.nextSlot_ok (K n j : Nat) : (PP.nextSlot n j).ok K := by unfold PP.nextSlot; split <;> trivial

theorem stepPP_slot_next (cfg : Cfg) (p c : Nat) (s : Shared) (l : Locals) (b : Bool) (n j : Nat) :
    (stepPP cfg p c s l b (.slot n j)).2.1 = l ∧
      ((stepPP cfg p c s l b (.slot n j)).2.2.1 = PP.nextSlot n j ∨ (stepPP cfg p c s l b (.slot n j)).2.2.1 = .slotInc n j) := by
  simp only [stepPP]
  by_cases hj : j < slotCnt <;> simp only [hj, if_true, if_false] <;> (repeat' split) <;> simp

theorem PP.afterLoad_ok {K : Nat} (h : HL) {ld : LP} (hk : ld.ok K) : (PP.afterLoad h ld).ok K := by
  cases ld with
  | done r d => simp only [PP.afterLoad]; split <;> first | exact True.intro | exact GI.ofGuard_ok K ⟨r, d⟩ hk
  | _ => exact hk

theorem PP.afterInto_ok {K : Nat} (h : HL) {r : Nat} {gi : GI} (hk : gi.ok K r) : (PP.afterInto h r gi).ok K := by
  cases gi <;> first | exact True.intro | exact hk

theorem PP.ok_step (K : Nat) (cfg : Cfg) (p c : Nat) (s : Shared) (l : Locals) (b : Bool) (pp : PP)
    (hk : pp.ok K) (hn : l.node.getD 0 < K)
    (hnh : ∀ j, (s.nodes (l.node.getD 0)).control ≠ .env j) : (stepPP cfg p c s l b pp).2.2.1.ok K := by
  cases pp with
  | hload h ld => rw [stepPP_hload]; exact PP.afterLoad_ok h (LP.ok_step K cfg c s l b ld hk hn hnh)
  | hinto h r gi => rw [stepPP_hinto]; exact PP.afterInto_ok h (GI.ok_step K r s gi hk)
  | slot n j =>
    rcases (stepPP_slot_next cfg p c s l b n j).2 with e | e <;> rw [e] <;> first | exact PP.nextSlot_ok K n j | exact True.intro
  | _ =>
    -- the other steps lead to states that host nothing, or a load at its start
    simp only [stepPP] <;> (repeat' split) <;>
      first | exact True.intro | exact PP.dispatch_ok K _ | exact PP.nextSlot_ok K _ _

theorem CP.afterLoad_ok {K cur : Nat} (new : Nat) {ld : LP} (hk : ld.ok K) : (CP.afterLoad cur new ld).ok K cur := by
  cases ld with
  | done p d =>
    simp only [CP.afterLoad]; (repeat' split) <;> first | exact hk | exact ⟨Decidable.not_not.mp ‹_›, hk⟩
  | _ => exact hk

theorem CP.afterPay_ok {K cur : Nat} {old : Guard} {pp : PP} (hk : pp.ok K) (ho : old.ok K) :
    (CP.afterPay old pp).ok K cur := by
  cases pp <;> first | exact ⟨hk, ho⟩ | (simp only [CP.afterPay]; split <;> exact ho)

theorem CP.afterDropOld_ok {K cur : Nat} {gd : GD} (hk : gd.ok K) : (CP.afterDropOld gd).ok K cur := by
  cases gd <;> first | exact True.intro | exact hk

theorem CP.ok_step (K : Nat) (cfg : Cfg) (c cur new : Nat) (s : Shared) (l : Locals) (b : Bool) (cp : CP)
    (hk : cp.ok K cur) (hn : l.node.getD 0 < K)
    (hnh : ∀ j, (s.nodes (l.node.getD 0)).control ≠ .env j) :
    (stepCP cfg c cur new s l b cp).2.2.1.ok K cur := by
  cases cp with
  | load ld => rw [stepCP_load]; exact CP.afterLoad_ok new (LP.ok_step K cfg c s l b ld hk hn hnh)
  | pay old pp => rw [stepCP_pay]; exact CP.afterPay_ok (PP.ok_step K cfg old.ptr c s l b pp hk.1 hn hnh) hk.2
  | dropOld gd => rw [stepCP_dropOld]; exact CP.afterDropOld_ok (GD.ok_step K s gd)
  | cx old =>
    simp only [stepCP]; (repeat' split) <;>
      first | exact hk | exact ⟨trivial, hk.2⟩ | exact True.intro | exact GD.ofGuard_ok K old hk.2
  | _ => exact hk

theorem RP.afterLoad_ok {K : Nat} {ld : LP} (hk : ld.ok K) : (RP.afterLoad ld).ok K := by
  cases ld <;> exact hk

theorem RP.afterCas_ok {K : Nat} {cur : Guard} (a : Nat) {cp : CP} (hc : cur.ok K) (hk : cp.ok K cur.ptr) :
    (RP.afterCas cur a cp).ok K := by
  cases cp with
  | done prev =>
    have hd := GD.ofGuard_ok K cur hc
    simp only [RP.afterCas]; (repeat' split) <;>
      first | exact True.intro | exact hd | exact ⟨hc, GI.ofGuard_ok K prev hk⟩ | exact hk | exact ⟨hk, hd⟩
  | _ => exact ⟨hc, hk⟩

theorem RP.afterIntoPrev_ok {K : Nat} {cur prev : Guard} {gi : GI} (hc : cur.ok K) (hk : gi.ok K prev.ptr) :
    (RP.afterIntoPrev cur prev gi).ok K := by
  cases gi <;> first | exact ⟨hc, hk⟩ | (simp only [RP.afterIntoPrev]; split <;> first | exact True.intro | exact GD.ofGuard_ok K cur hc)

theorem RP.afterDropCur_ok {K : Nat} (res : Nat) {gd : GD} (hk : gd.ok K) : (RP.afterDropCur res gd).ok K := by
  cases gd <;> first | exact True.intro | exact hk

theorem RP.afterDropCurLoop_ok {K : Nat} {prev : Guard} {gd : GD} (hp : prev.ok K) (hk : gd.ok K) :
    (RP.afterDropCurLoop prev gd).ok K := by
  cases gd <;> first | exact hp | exact ⟨hp, hk⟩

theorem RP.ok_step (K : Nat) (cfg : Cfg) (c : Nat) (s : Shared) (l : Locals) (b : Bool) (tries : Nat) (rp : RP)
    (hk : rp.ok K) (hn : l.node.getD 0 < K)
    (hnh : ∀ j, (s.nodes (l.node.getD 0)).control ≠ .env j) :
    (stepRP cfg c s l b tries rp).2.2.1.ok K := by
  cases rp with
  | load ld => rw [stepRP_load]; exact RP.afterLoad_ok (LP.ok_step K cfg c s l b ld hk hn hnh)
  | cas cur a cp => rw [stepRP_cas]; exact RP.afterCas_ok a hk.1 (CP.ok_step K cfg c cur.ptr a s l b cp hk.2 hn hnh)
  | intoPrev cur prev gi => rw [stepRP_intoPrev]; exact RP.afterIntoPrev_ok hk.1 (GI.ok_step K prev.ptr s gi hk.2)
  | dropCur res gd => rw [stepRP_dropCur]; exact RP.afterDropCur_ok res (GD.ok_step K s gd)
  | dropCurLoop prev gd => rw [stepRP_dropCurLoop]; exact RP.afterDropCurLoop_ok hk.1 (GD.ok_step K s gd)
  | attempt cur => exact ⟨hk, trivial⟩
  | done r => trivial

def OpSt.okL (K : Nat) : OpSt → Prop
  | .load _ _ ld | .loadFull _ _ ld => ld.ok K
  | .loadFullInto _ _ r gi => gi.ok K r
  | .dropg gd => gd.ok K
  | .ginto _ p gi => gi.ok K p
  | .swapPay _ _ _ _ pp | .cinto _ _ _ pp | .dropc _ _ pp => pp.ok K
  | .cas _ _ keep curPtr _ _ cp => cp.ok K curPtr ∧ (∀ cg, keep = some cg → cg.ok K)
  | .rcu _ _ _ rp => rp.ok K
  | _ => True

def GregOk (K : Nat) (s : Shared) : Prop := ∀ g gd, s.greg g = some gd → gd.ok K

theorem GregOk.of_eq {K : Nat} {s s' : Shared} (h : GregOk K s) (he : s'.greg = s.greg) : GregOk K s' := by
  intro g gd hg; rw [he] at hg; exact h g gd hg

theorem GregOk.upd_ok {K : Nat} {greg : Nat → Option Guard} (h : ∀ g gd, greg g = some gd → gd.ok K)
    (i : Nat) (v : Option Guard) (hv : ∀ gd, v = some gd → gd.ok K) :
    ∀ g gd, upd greg i v g = some gd → gd.ok K := by
  intro g gd hg
  by_cases hgi : g = i
  · subst hgi; rw [upd_same] at hg; exact hv gd hg
  · rw [upd_other _ _ _ _ hgi] at hg; exact h g gd hg

theorem beginOp_okL (K : Nat) (st : State) (t : Nat) (o : Op) (hg : GregOk K st.sh) :
    ((beginOp st t o).1.th t).op.okL K ∧ GregOk K (beginOp st t o).1.sh := by
  -- the guards an operation works on come out of registers, and none is put into one
  have clr : ∀ i g gd, upd st.sh.greg i none g = some gd → gd.ok K := fun i => GregOk.upd_ok hg i none nofun
  cases o with
  | dropg g =>
    simp only [beginOp]; (repeat' split) <;> simp only [upd_same] <;>
      first | exact ⟨True.intro, hg⟩ | exact ⟨True.intro, clr g⟩ | exact ⟨GD.ofGuard_ok K _ (hg g _ ‹_›), clr g⟩
  | ginto g h =>
    simp only [beginOp]; (repeat' split) <;> simp only [upd_same] <;>
      first | exact ⟨True.intro, hg⟩ | exact ⟨True.intro, clr g⟩ | exact ⟨GI.ofGuard_ok K _ (hg g _ ‹_›), clr g⟩
  | gderef g =>
    simp only [beginOp]; (repeat' split) <;> simp only [upd_same] <;>
      first | exact ⟨True.intro, hg⟩ | exact ⟨True.intro, hg.of_eq (setFault_greg ..)⟩
  | cas c cur nw g =>
    have hk : ∀ {gc cg}, st.sh.greg gc = some cg → ∀ x, some cg = some x → x.ok K :=
      fun h x e => by cases e; exact hg _ _ h
    simp only [beginOp]; (repeat' split) <;> simp only [upd_same] <;>
      first | exact ⟨True.intro, hg⟩ | exact ⟨⟨True.intro, nofun⟩, hg⟩ | exact ⟨⟨True.intro, hk ‹_›⟩, clr _⟩
  | _ => simp only [beginOp] <;> (repeat' split) <;> simp only [upd_same] <;> exact ⟨True.intro, hg⟩

theorem microStep_okL (K : Nat) (st : State) (t : Nat) (b : Bool)
    (hk : (st.th t).op.okL K) (hg : GregOk K st.sh) (hn : (st.th t).loc.node.getD 0 < K)
    (hnh : ∀ j, (st.sh.nodes ((st.th t).loc.node.getD 0)).control ≠ .env j) :
    ((microStep st t b).1.th t).op.okL K ∧ GregOk K (microStep st t b).1.sh := by
  -- the hosted sub-machine writes no guard register; the step itself writes the guard that a finished
  -- `load` or `compare_and_swap` hands out (and gives `current` back)
  have hg' : GregOk K ((st.th t).op.core st.cfg st.sh (st.th t).loc b) := hg.of_eq (OpSt.core_upds ..).greg
  generalize hop : (st.th t).op = op at hk hg'
  have some_ok : ∀ {x : Guard}, x.ok K → ∀ gd, some x = some gd → gd.ok K := fun h gd e => by cases e; exact h
  cases op with
  | idle =>
    simp only [microStep, hop]; split
    · exact ⟨by simp only [upd_same]; split <;> exact True.intro, hg⟩
    · exact beginOp_okL K { st with th := _ } t _ hg
  | finished => simp only [microStep, hop]; exact ⟨True.intro, hg⟩
  | exitCool cd =>
    simp only [microStep, hop]; split <;> rename_i heq <;> simp only [OpSt.core, heq] at hg' <;> simp only [upd_same] <;>
      exact ⟨True.intro, hg'⟩
  | load c g ld =>
    have h1 := LP.ok_step K st.cfg c st.sh (st.th t).loc b ld hk hn hnh
    simp only [microStep, hop]; split <;> rename_i heq <;> simp only [OpSt.core, heq] at h1 hg' <;> simp only [upd_same]
    · exact ⟨True.intro, GregOk.upd_ok hg' g _ (some_ok h1)⟩
    · exact ⟨h1, hg'⟩
  | loadFull c h ld =>
    have h1 := LP.ok_step K st.cfg c st.sh (st.th t).loc b ld hk hn hnh
    simp only [microStep, hop]; split <;> rename_i heq <;> simp only [OpSt.core, heq] at h1 hg'
    · split <;> simp only [upd_same] <;> first | exact ⟨True.intro, hg'⟩ | exact ⟨GI.ofGuard_ok K ⟨_, _⟩ h1, hg'⟩
    · simp only [upd_same]; exact ⟨h1, hg'⟩
  | loadFullInto c h r gi | ginto h r gi =>
    have h1 := GI.ok_step K r st.sh gi hk
    simp only [microStep, hop]; split <;> rename_i heq <;> simp only [OpSt.core, heq] at h1 hg' <;> simp only [upd_same] <;>
      first | exact ⟨True.intro, hg'⟩ | exact ⟨h1, hg'⟩
  | dropg gd =>
    have h1 := GD.ok_step K st.sh gd
    simp only [microStep, hop]; split <;> rename_i heq <;> simp only [OpSt.core, heq] at h1 hg' <;> simp only [upd_same] <;>
      first | exact ⟨True.intro, hg'⟩ | exact ⟨h1, hg'⟩
  | swapSw c x out isStore =>
    simp only [microStep, hop]; split
    · exact ⟨by simp only [upd_same]; exact True.intro, hg⟩
    · exact ⟨by rw [hop]; exact True.intro, hg⟩
  | swapPay c out p isStore pp | cinto c h p pp | dropc c p pp =>
    have h1 := PP.ok_step K st.cfg p c st.sh (st.th t).loc b pp hk hn hnh
    simp only [microStep, hop]; split <;> rename_i heq <;> simp only [OpSt.core, heq] at h1 hg' <;> (repeat' split) <;>
      simp only [upd_same] <;> first | exact ⟨True.intro, hg'⟩ | exact ⟨h1, hg'⟩
  | cas c cur keep curPtr new g cp =>
    have h1 := CP.ok_step K st.cfg c curPtr new st.sh (st.th t).loc b cp hk.1 hn hnh
    simp only [microStep, hop]; split <;> rename_i heq <;> simp only [OpSt.core, heq] at h1 hg' <;> simp only [upd_same]
    · refine ⟨True.intro, ?_⟩
      have h2 := GregOk.upd_ok hg' g _ (some_ok h1)
      cases cur <;> cases keep <;>
        first | exact h2 | exact GregOk.upd_ok (GregOk.upd_ok hg' _ _ (some_ok (hk.2 _ rfl))) g _ (some_ok h1)
    · exact ⟨⟨h1, hk.2⟩, hg'⟩
  | rcu c out tries rp =>
    have h1 := RP.ok_step K st.cfg c st.sh (st.th t).loc b tries rp hk hn hnh
    simp only [microStep, hop]; split <;> rename_i heq <;> simp only [OpSt.core, heq] at h1 hg' <;> simp only [upd_same] <;>
      first | exact ⟨True.intro, hg'⟩ | exact ⟨h1, hg'⟩
  | _ => simp only [microStep, hop, upd_same] <;> exact ⟨True.intro, hg'⟩

end M
