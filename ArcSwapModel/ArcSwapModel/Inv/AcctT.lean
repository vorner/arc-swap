import ArcSwapModel.Inv.Acct

/-!
# Conservation at the level of whole operations: registers enter the ledger

`regs` counts the references held by the containers, the owned handles and the guards in the
registers below `N` (a guard counts one whether it owns or borrows); `uOp` the references an
operation in flight accounts for.  `beginOp_cons` / `microStep_cons`: every micro-step of every
thread changes `potential − registers` by exactly the change of that thread's units.
-/

namespace M
open Consts

def gU (g : Option Guard) (a : Nat) : Nat :=
  match g with
  | some gd => u gd.ptr a
  | none => 0

/-- references held by registers: containers, handles, guards -/
def regs (N : Nat) (cells hreg : Nat → Option Nat) (greg : Nat → Option Guard) (a : Nat) : Nat :=
  sumN (fun c => ind (cells c = some a)) N + sumN (fun h => ind (hreg h = some a)) N + sumN (fun g => gU (greg g) a) N

def Shared.regs (s : Shared) (N a : Nat) : Nat := M.regs N s.cells s.hreg s.greg a

theorem regs_setC (N : Nat) (cells hreg : Nat → Option Nat) (greg : Nat → Option Guard) (c : Nat) (v : Option Nat)
    (a : Nat) (hc : c < N) :
    regs N (upd cells c v) hreg greg a + ind (cells c = some a) = regs N cells hreg greg a + ind (v = some a) := by
  have := sumN_set cells (fun o => ind (o = some a)) c v hc
  simp only [regs]; omega

theorem regs_setH (N : Nat) (cells hreg : Nat → Option Nat) (greg : Nat → Option Guard) (h : Nat) (v : Option Nat)
    (a : Nat) (hh : h < N) :
    regs N cells (upd hreg h v) greg a + ind (hreg h = some a) = regs N cells hreg greg a + ind (v = some a) := by
  have := sumN_set hreg (fun o => ind (o = some a)) h v hh
  simp only [regs]; omega

theorem regs_setG (N : Nat) (cells hreg : Nat → Option Nat) (greg : Nat → Option Guard) (g : Nat) (v : Option Guard)
    (a : Nat) (hg : g < N) :
    regs N cells hreg (upd greg g v) a + gU (greg g) a = regs N cells hreg greg a + gU v a := by
  have := sumN_set greg (fun o => gU o a) g v hg
  simp only [regs]; omega

/-- units of an operation in flight -/
def uOp : OpSt → Nat → Nat
  | .load _ _ ld | .loadFull _ _ ld => uLP ld
  | .loadFullInto _ _ r gi => uGI r gi
  | .cloneh _ _ a | .droph a => u a
  | .dropg gd => uGD gd
  | .ginto _ p gi => uGI p gi
  | .swapSw _ a _ _ => u a
  | .swapPay _ _ old _ pp => fun x => u old x + uPP old pp x
  | .swapDrop _ old => u old
  | .cas _ cur keep curPtr new _ cp => fun x =>
      uCP new cp x + (gU keep x + (match cur with | .h _ => u curPtr x | _ => 0))
  | .rcu _ _ _ rp => uRP rp
  | .cinto _ _ p pp | .dropc _ p pp => uPP p pp
  | _ => fun _ => 0

/-- conservation of one thread step: potential, registers, the thread's units -/
def TCons (K N : Nat) (s s' : Shared) (U U' : Nat → Nat) : Prop :=
  ∀ a, a ≠ 0 → pot K s' a + s.regs N a + U a = pot K s a + s'.regs N a + U' a

def Op.below (N : Nat) : Op → Prop
  | .new h _ | .nullh h | .droph h => h < N
  | .cloneh h h2 => h < N ∧ h2 < N
  | .mk c h | .loadfull c h | .store c h | .cinto c h => c < N ∧ h < N
  | .load c g => c < N ∧ g < N
  | .dropg g | .gderef g => g < N
  | .ginto g h => g < N ∧ h < N
  | .swap c h out => c < N ∧ h < N ∧ out < N
  | .cas c cur nw g => c < N ∧ nw < N ∧ g < N ∧ (match cur with | .h i => i < N | .g i => i < N | .null => True)
  | .rcu c out => c < N ∧ out < N
  | .dropc c => c < N
  | .setgen _ => True

theorem ind_some_none (a : Nat) : ind ((none : Option Nat) = some a) = 0 := by simp [ind]

theorem gU_none (a : Nat) : gU none a = 0 := rfl
theorem gU_some (g : Guard) (a : Nat) : gU (some g) a = u g.ptr a := rfl

/-! A register is empty or holds one reference: an operation fills an empty one or takes a full one. -/

theorem regs_fillH (N : Nat) (cells hreg : Nat → Option Nat) (greg : Nat → Option Guard) (h p a : Nat) (hh : h < N)
    (hfree : hreg h = none) : regs N cells (upd hreg h (some p)) greg a = regs N cells hreg greg a + u p a := by
  have := regs_setH N cells hreg greg h (some p) a hh
  rw [hfree, ind_some_none, ind_some] at this; exact this

theorem regs_takeH (N : Nat) (cells hreg : Nat → Option Nat) (greg : Nat → Option Guard) (h x a : Nat) (hh : h < N)
    (hx : hreg h = some x) : regs N cells (upd hreg h none) greg a + u x a = regs N cells hreg greg a := by
  have := regs_setH N cells hreg greg h none a hh
  rw [hx, ind_some_none, ind_some] at this; exact this

theorem regs_fillG (N : Nat) (cells hreg : Nat → Option Nat) (greg : Nat → Option Guard) (g : Nat) (x : Guard) (a : Nat)
    (hg : g < N) (hfree : greg g = none) :
    regs N cells hreg (upd greg g (some x)) a = regs N cells hreg greg a + u x.ptr a := by
  have := regs_setG N cells hreg greg g (some x) a hg
  rw [hfree, gU_none, gU_some] at this; exact this

theorem regs_takeG (N : Nat) (cells hreg : Nat → Option Nat) (greg : Nat → Option Guard) (g : Nat) (x : Guard) (a : Nat)
    (hg : g < N) (hx : greg g = some x) :
    regs N cells hreg (upd greg g none) a + u x.ptr a = regs N cells hreg greg a := by
  have := regs_setG N cells hreg greg g none a hg
  rw [hx, gU_none, gU_some] at this; exact this

theorem regs_takeC (N : Nat) (cells hreg : Nat → Option Nat) (greg : Nat → Option Guard) (c x a : Nat) (hc : c < N)
    (hx : cells c = some x) : regs N (upd cells c none) hreg greg a + u x a = regs N cells hreg greg a := by
  have := regs_setC N cells hreg greg c none a hc
  rw [hx, ind_some_none, ind_some] at this; exact this

/-! ## From the sub-machines to a whole step

The step of the hosted sub-machine conserves (`hc`); what follows it moves references between the
registers and the operation's units only (`hr`). -/

theorem TCons.of_consC {K N : Nat} {s s1 s' : Shared} {U U1 U' : Nat → Nat} (hc : ConsC K N s s1 U U1)
    (hh : s'.heap = s1.heap) (hn : s'.nodes = s1.nodes)
    (hr : ∀ a, a ≠ 0 → M.regs N s1.cells s.hreg s.greg a + U1 a = M.regs N s'.cells s'.hreg s'.greg a + U' a) :
    TCons K N s s' U U' := by
  intro a ha
  have hp : pot K s' a = pot K s1 a := by simp only [pot, hh, hn]
  have h1 := hc a ha
  have h2 := hr a ha
  simp only [Shared.regs, M.regs, cellsU, hp] at h1 h2 ⊢; omega

/-- no sub-machine runs: registers and units only -/
theorem TCons.of_fields {K N : Nat} {s s' : Shared} {U U' : Nat → Nat}
    (hh : s'.heap = s.heap) (hn : s'.nodes = s.nodes)
    (hr : ∀ a, a ≠ 0 → M.regs N s.cells s.hreg s.greg a + U a = M.regs N s'.cells s'.hreg s'.greg a + U' a) :
    TCons K N s s' U U' :=
  TCons.of_consC (fun _ _ => rfl) hh hn hr

/-- nothing happens and the thread is idle afterwards -/
theorem TCons.idle (K N : Nat) (s : Shared) (th : Nat → Thread) (t : Nat) (x : Thread) (hx : x.op = .idle) :
    TCons K N s s (fun _ => 0) (uOp ((upd th t x) t).op) := by
  rw [upd_same, hx]; exact TCons.of_fields rfl rfl fun _ _ => rfl

/-- units the operation holds besides those of the sub-machine it hosts -/
theorem Cons.add_left {K : Nat} {s s' : Shared} {U U' : Nat → Nat} (h : Cons K s s' U U') (X : Nat → Nat) :
    Cons K s s' (fun a => X a + U a) (fun a => X a + U' a) := fun a ha => by
  have := h a ha; dsimp only; omega

theorem ConsC.add_right {K N : Nat} {s s' : Shared} {U U' : Nat → Nat} (h : ConsC K N s s' U U') (X : Nat → Nat) :
    ConsC K N s s' (fun a => U a + X a) (fun a => U' a + X a) := fun a ha => by
  have := h a ha; dsimp only; omega

/-- starting an operation: registers are emptied into the operation's units (or the operation is
    done at once: `new`, `nullh`, `mk`, a clone of null …) -/
theorem beginOp_cons (K N : Nat) (st : State) (t : Nat) (o : Op) (hN : o.below N)
    (hroom : ∀ v, (st.sh.heap (alloc st.sh v).2.1).cnt = 0)
    (hmk : ∀ c h, o = .mk c h → st.sh.cells c = none)
    (hf : (beginOp st t o).1.sh.fault = none) :
    TCons K N st.sh (beginOp st t o).1.sh (fun _ => 0) (uOp ((beginOp st t o).1.th t).op) := by
  have skip := fun x hx => TCons.idle K N st.sh st.th t x hx
  cases o with
  | new h val =>
    simp only [beginOp]
    split
    · exact skip _ rfl
    · rename_i hfree
      intro a ha
      have h1 := pot_alloc K st.sh val a (hroom val)
      have h2 := regs_fillH N st.sh.cells st.sh.hreg st.sh.greg h (alloc st.sh val).2.1 a hN (by simpa using hfree)
      simp only [upd_same, uOp, Shared.regs]
      simp only [pot] at h1 ⊢
      dsimp only [alloc] at h1 h2 ⊢
      omega
  | nullh h =>
    simp only [beginOp]
    split
    · exact skip _ rfl
    · rename_i hfree
      refine TCons.of_fields rfl rfl (fun a ha => ?_)
      have h2 := regs_fillH N st.sh.cells st.sh.hreg st.sh.greg h 0 a hN (by simpa using hfree)
      have u0 := u_zero a ha
      simp only [upd_same, uOp]; omega
  | cloneh h h2 =>
    simp only [beginOp]
    split
    · exact skip _ rfl
    · rename_i hfree
      split
      · exact skip _ rfl
      · rename_i x hx
        split
        · refine TCons.of_fields rfl rfl (fun a ha => ?_)
          have h2' := regs_fillH N st.sh.cells st.sh.hreg st.sh.greg h2 0 a hN.2 (by simpa using hfree)
          have u0 := u_zero a ha
          simp only [upd_same, uOp]; omega
        · refine TCons.of_fields rfl rfl (fun a ha => ?_)
          have h2' := regs_takeH N st.sh.cells st.sh.hreg st.sh.greg h x a hN.1 hx
          simp only [upd_same, uOp]; omega
  | droph h =>
    simp only [beginOp]
    split
    · exact skip _ rfl
    · rename_i x hx
      have h1 := fun a => regs_takeH N st.sh.cells st.sh.hreg st.sh.greg h x a hN hx
      split
      · rename_i h0; subst h0
        refine TCons.of_fields rfl rfl (fun a ha => ?_)
        have h1 := h1 a
        have u0 := u_zero a ha
        simp only [upd_same, uOp]; omega
      · refine TCons.of_fields rfl rfl (fun a ha => ?_)
        have h1 := h1 a
        simp only [upd_same, uOp]; omega
  | mk c h =>
    simp only [beginOp]
    split
    · exact skip _ rfl
    · rename_i x hx
      refine TCons.of_fields rfl rfl (fun a ha => ?_)
      have h1 := regs_takeH N st.sh.cells st.sh.hreg st.sh.greg h x a hN.2 hx
      have h2' := regs_setC N st.sh.cells (upd st.sh.hreg h none) st.sh.greg c (some x) a hN.1
      rw [hmk c h rfl, ind_some_none, ind_some] at h2'
      simp only [upd_same, uOp]; omega
  | dropg g =>
    simp only [beginOp]
    split
    · exact skip _ rfl
    · rename_i x hx
      have h1 := fun a => regs_takeG N st.sh.cells st.sh.hreg st.sh.greg g x a hN hx
      split
      · rename_i hd
        refine TCons.of_fields rfl rfl (fun a ha => ?_)
        have h1 := h1 a
        have h3 := uGD_ofGuard x a ha
        rw [hd] at h3
        simp only [upd_same, uOp, uGD, uG] at h3 ⊢; omega
      · refine TCons.of_fields rfl rfl (fun a ha => ?_)
        have h1 := h1 a
        have h3 := uGD_ofGuard x a ha
        simp only [upd_same, uOp, uG] at h3 ⊢; omega
  | ginto g h =>
    simp only [beginOp]
    split
    · exact skip _ rfl
    · rename_i hfree
      split
      · exact skip _ rfl
      · rename_i x hx
        have h1 := fun a => regs_takeG N st.sh.cells st.sh.hreg st.sh.greg g x a hN.1 hx
        split
        · refine TCons.of_fields rfl rfl (fun a ha => ?_)
          have h1 := h1 a
          have h2' := regs_fillH N st.sh.cells st.sh.hreg (upd st.sh.greg g none) h x.ptr a hN.2 (by simpa using hfree)
          simp only [upd_same, uOp]; omega
        · rename_i hgi
          refine TCons.of_fields rfl rfl (fun a ha => ?_)
          have h1 := h1 a
          have h3 := uGI_ofGuard x a ha hgi
          simp only [upd_same, uOp, uG] at h3 ⊢; omega
  | gderef g =>
    simp only [beginOp] at hf ⊢
    split
    · exact skip _ rfl
    · refine TCons.of_fields ?_ ?_ (fun a _ => ?_)
      · dsimp only; split <;> simp
      · dsimp only; split <;> simp
      · dsimp only; split <;> simp [uOp, upd]
  | store c h =>
    simp only [beginOp]
    split
    · exact skip _ rfl
    · split
      · exact skip _ rfl
      · rename_i x hx
        refine TCons.of_fields rfl rfl (fun a ha => ?_)
        have h1 := regs_takeH N st.sh.cells st.sh.hreg st.sh.greg h x a hN.2 hx
        simp only [upd_same, uOp]; omega
  | swap c h out =>
    simp only [beginOp]
    split
    · exact skip _ rfl
    · split
      · exact skip _ rfl
      · rename_i x hx
        split
        · exact skip _ rfl
        · refine TCons.of_fields rfl rfl (fun a ha => ?_)
          have h1 := regs_takeH N st.sh.cells st.sh.hreg st.sh.greg h x a hN.2.1 hx
          simp only [upd_same, uOp]; omega
  | cas c cur nw g =>
    simp only [beginOp]
    split
    · exact skip _ rfl
    · split
      · exact skip _ rfl
      · split
        · exact skip _ rfl
        · rename_i x hx
          have h1 := fun a => regs_takeH N st.sh.cells st.sh.hreg st.sh.greg nw x a hN.2.1 hx
          cases cur with
          | null =>
            refine TCons.of_fields rfl rfl (fun a ha => ?_)
            have h1 := h1 a
            simp only [upd_same, uOp, uCP, uLP, gU_none]; omega
          | h hc =>
            dsimp only
            split
            · exact skip _ rfl
            · rename_i y hy
              refine TCons.of_fields rfl rfl (fun a ha => ?_)
              have h1 := h1 a
              have h2' := regs_takeH N st.sh.cells (upd st.sh.hreg nw none) st.sh.greg hc y a hN.2.2.2 hy
              simp only [upd_same, uOp, uCP, uLP, gU_none]; omega
          | g gc =>
            dsimp only
            split
            · exact skip _ rfl
            · rename_i y hy
              refine TCons.of_fields rfl rfl (fun a ha => ?_)
              have h1 := h1 a
              have h2' := regs_takeG N st.sh.cells (upd st.sh.hreg nw none) st.sh.greg gc y a hN.2.2.2 hy
              simp only [upd_same, uOp, uCP, uLP, gU_some]; omega
  | load _ _ | loadfull _ _ | rcu _ _ | cinto _ _ | dropc _ =>
    simp only [beginOp]
    (repeat' split) <;>
      (first | exact skip _ rfl
             | exact TCons.of_fields rfl rfl (fun a _ => by simp only [upd_same, uOp, uLP, uRP, uPP]))
  | setgen v => exact skip _ rfl

/-! ## The sub-machines never touch a handle or guard register -/

theorem setFault_hg (s : Shared) (f : Fault) : (s.setFault f).hreg = s.hreg ∧ (s.setFault f).greg = s.greg := by simp

theorem Upds.hg {s s' : Shared} (h : Upds s s') : s'.hreg = s.hreg ∧ s'.greg = s.greg := ⟨h.hreg, h.greg⟩

theorem stepCD_hg (s : Shared) (cd : CD) : (stepCD s cd).1.hreg = s.hreg ∧ (stepCD s cd).1.greg = s.greg :=
  (stepCD_upds s cd).hg

theorem stepGD_hg (s : Shared) (gd : GD) : (stepGD s gd).1.hreg = s.hreg ∧ (stepGD s gd).1.greg = s.greg :=
  (stepGD_upds s gd).hg

theorem stepGI_hg (s : Shared) (gi : GI) : (stepGI s gi).1.hreg = s.hreg ∧ (stepGI s gi).1.greg = s.greg :=
  (stepGI_upds s gi).hg

theorem stepLP_hg (cfg : Cfg) (c : Nat) (s : Shared) (l : Locals) (b : Bool) (lp : LP) :
    (stepLP cfg c s l b lp).1.hreg = s.hreg ∧ (stepLP cfg c s l b lp).1.greg = s.greg :=
  (stepLP_upds cfg c s l b lp).hg

theorem stepPP_hg (cfg : Cfg) (p c : Nat) (s : Shared) (l : Locals) (b : Bool) (pp : PP) :
    (stepPP cfg p c s l b pp).1.hreg = s.hreg ∧ (stepPP cfg p c s l b pp).1.greg = s.greg :=
  (stepPP_upds cfg p c s l b pp).hg

theorem stepCP_hg (cfg : Cfg) (c cur new : Nat) (s : Shared) (l : Locals) (b : Bool) (cp : CP) :
    (stepCP cfg c cur new s l b cp).1.hreg = s.hreg ∧ (stepCP cfg c cur new s l b cp).1.greg = s.greg :=
  (stepCP_upds cfg c cur new s l b cp).hg

theorem stepRP_hg (cfg : Cfg) (c : Nat) (s : Shared) (l : Locals) (b : Bool) (tries : Nat) (rp : RP) :
    (stepRP cfg c s l b tries rp).1.hreg = s.hreg ∧ (stepRP cfg c s l b tries rp).1.greg = s.greg :=
  (stepRP_upds cfg c s l b tries rp).hg

/-- the walk in progress inside an operation, if any (for the hand-over exclusion) -/
def CP.pp? : CP → Option PP
  | .pay _ pp => some pp
  | _ => none

def OpSt.pp? : OpSt → Option PP
  | .swapPay _ _ _ _ pp | .cinto _ _ _ pp | .dropc _ _ pp => some pp
  | .cas _ _ _ _ _ _ cp => cp.pp?
  | .rcu _ _ _ (.cas _ _ cp) => cp.pp?
  | _ => none

/-- local well-formedness of an operation in flight, and its output registers are free -/
def OpSt.ok (K N : Nat) (s : Shared) : OpSt → Prop
  | .load c g ld => ld.ok K ∧ c < N ∧ g < N ∧ s.greg g = none
  | .loadFull c h ld => ld.ok K ∧ c < N ∧ h < N ∧ s.hreg h = none
  | .loadFullInto _ h r gi => gi.ok K r ∧ h < N ∧ s.hreg h = none
  | .cloneh h h2 _ => h < N ∧ h2 < N ∧ h ≠ h2 ∧ s.hreg h = none ∧ s.hreg h2 = none
  | .dropg gd => gd.ok K
  | .ginto h p gi => gi.ok K p ∧ h < N ∧ s.hreg h = none
  | .swapSw c _ _ _ => c < N
  | .swapPay _ out _ isStore pp => pp.ok K ∧ (isStore = false → out < N ∧ s.hreg out = none)
  | .cas c cur keep curPtr _ g cp => cp.ok K curPtr ∧ c < N ∧ g < N ∧ s.greg g = none ∧
      (match cur, keep with
        | .h hc, none => hc < N ∧ s.hreg hc = none
        | .g gc, some _ => gc < N ∧ gc ≠ g ∧ s.greg gc = none
        | .null, none => True
        | _, _ => False)
  | .rcu c out _ rp => rp.ok K ∧ c < N ∧ out < N ∧ s.hreg out = none
  | .cinto c h p pp => pp.ok K ∧ c < N ∧ h < N ∧ s.hreg h = none ∧ s.cells c = some p
  | .dropc c p pp => pp.ok K ∧ c < N ∧ s.cells c = some p
  | .dropcDec c p => c < N ∧ s.cells c = some p
  | _ => True

/-- **Every micro-step of every thread conserves**: the potential changes by exactly what the
    registers and the stepping thread's units change by — for any shared state. -/
theorem microStep_cons (K N : Nat) (st : State) (t : Nat) (b : Bool)
    (hk : (st.th t).op.ok K N st.sh) (hn : (st.th t).loc.node.getD 0 < K) (hb : Beyond st.sh)
    (hK : st.sh.nNodes ≤ K)
    (hnh : ∀ h r x m, (st.th t).op.pp? = some (.h7 h r x m) → (st.sh.nodes h.who).control ≠ h.ctl)
    (hroom : ∀ v, (st.sh.heap (alloc st.sh v).2.1).cnt = 0)
    (hnext : ∀ txt o rest, (st.th t).prog = (txt, o) :: rest →
      o.below N ∧ (∀ c h, o = .mk c h → st.sh.cells c = none))
    (hf : (microStep st t b).1.sh.fault = none) :
    TCons K N st.sh (microStep st t b).1.sh (uOp (st.th t).op) (uOp ((microStep st t b).1.th t).op) := by
  by_cases hi : (st.th t).op = .idle
  · simp only [microStep, hi] at hf ⊢
    split
    · refine TCons.of_fields rfl rfl (fun a _ => ?_)
      simp only [upd_same, uOp]
      split <;> rfl
    · rename_i txt o rest hp
      obtain ⟨hbel, hmk⟩ := hnext txt o rest hp
      simp only [hp] at hf
      exact beginOp_cons K N { st with th := upd st.th t { prog := rest, op := .idle, loc := (st.th t).loc } } t o
        hbel hroom hmk hf
  -- the fault flag after the step is that of the hosted sub-machine's step
  have hfx : ((st.th t).op.core st.cfg st.sh (st.th t).loc b).fault = none :=
    (microStep_core st t b hi).fault.symm.trans hf
  generalize hop : (st.th t).op = op at hk hnh hfx hi
  cases op with
  | idle => exact absurd rfl hi
  | finished =>
    simp only [microStep, hop]
    exact TCons.of_fields rfl rfl (fun _ _ => rfl)
  | exitCool cd =>
    have hc := ConsC.of_cons (N := N) (fun a _ => by rw [stepCD_pot] : Cons K st.sh (stepCD st.sh cd).1 (fun _ => 0) (fun _ => 0))
      (stepCD_frame st.sh cd).1
    have hhg := stepCD_hg st.sh cd
    simp only [microStep, hop]
    split <;> rename_i heq <;> simp only [heq] at hc hhg <;>
      exact TCons.of_consC hc rfl rfl (fun a _ => by simp only [upd_same, uOp, hhg.1, hhg.2])
  | load c g ld =>
    obtain ⟨hlk, hcN, hgN, hgfree⟩ := hk
    have hc := ConsC.of_cons (N := N) (stepLP_cons K st.cfg c st.sh (st.th t).loc b ld hlk hn hb hfx)
      (stepLP_frame st.cfg c st.sh (st.th t).loc b ld).1
    have hhg := stepLP_hg st.cfg c st.sh (st.th t).loc b ld
    simp only [microStep, hop]
    split
    · rename_i s' l' p d evs heq
      simp only [heq] at hc hhg
      refine TCons.of_consC hc rfl rfl (fun a ha => ?_)
      have h1 := regs_fillG N s'.cells st.sh.hreg st.sh.greg g { ptr := p, debt := d } a hgN hgfree
      simp only [upd_same, uOp, uLP, hhg.1, hhg.2] at h1 ⊢; omega
    · rename_i heq
      simp only [heq] at hc hhg
      exact TCons.of_consC hc rfl rfl (fun a _ => by simp only [upd_same, uOp, hhg.1, hhg.2])
  | loadFull c h ld =>
    obtain ⟨hlk, hcN, hhN, hhfree⟩ := hk
    have hc := ConsC.of_cons (N := N) (stepLP_cons K st.cfg c st.sh (st.th t).loc b ld hlk hn hb hfx)
      (stepLP_frame st.cfg c st.sh (st.th t).loc b ld).1
    have hhg := stepLP_hg st.cfg c st.sh (st.th t).loc b ld
    simp only [microStep, hop]
    split
    · rename_i s' l' p d evs heq
      simp only [heq] at hc hhg
      split
      · refine TCons.of_consC hc rfl rfl (fun a ha => ?_)
        have h1 := regs_fillH N s'.cells st.sh.hreg st.sh.greg h p a hhN hhfree
        simp only [upd_same, uOp, uLP, hhg.1, hhg.2]; omega
      · rename_i hgi
        refine TCons.of_consC hc rfl rfl (fun a ha => ?_)
        have h3 := uGI_ofGuard { ptr := p, debt := d } a ha hgi
        simp only [upd_same, uOp, uLP, uG, hhg.1, hhg.2] at h3 ⊢; omega
    · rename_i heq
      simp only [heq] at hc hhg
      exact TCons.of_consC hc rfl rfl (fun a _ => by simp only [upd_same, uOp, hhg.1, hhg.2])
  | cloneh h h2 x =>
    obtain ⟨hhN, hh2N, hne, hfree, hfree2⟩ := hk
    simp only [microStep, hop]
    refine TCons.of_consC (s1 := (incObj st.sh x).1) (U1 := fun a => 2 * u x a) (fun a _ => ?_) rfl rfl (fun a _ => ?_)
    · have := pot_inc K st.sh x a hfx
      simp only [uOp, cellsU, incObj_cells]; omega
    · have h1 := regs_fillH N st.sh.cells st.sh.hreg st.sh.greg h x a hhN hfree
      have h2' := regs_fillH N st.sh.cells (upd st.sh.hreg h (some x)) st.sh.greg h2 x a hh2N
        (by rw [upd_other _ _ _ _ (Ne.symm hne)]; exact hfree2)
      simp only [upd_same, uOp, incObj_cells, incObj_hreg, incObj_greg]; omega
  | droph x =>
    simp only [microStep, hop]
    intro a _
    have h0 := pot_dec K st.sh x a hfx
    simp only [Shared.regs, upd_same, uOp, decObj_cells, decObj_hreg, decObj_greg]; omega
  | dropg gd =>
    have hc := ConsC.of_cons (N := N) (stepGD_cons K st.sh gd hk hfx) (stepGD_frame st.sh gd).1
    have hhg := stepGD_hg st.sh gd
    simp only [microStep, hop]
    split <;> rename_i heq <;> simp only [heq] at hc hhg <;>
      exact TCons.of_consC hc rfl rfl (fun a _ => by simp only [upd_same, uOp, uGD, hhg.1, hhg.2])
  | loadFullInto _ h p gi | ginto h p gi =>
    obtain ⟨hgk, hhN, hhfree⟩ := hk
    have hc := ConsC.of_cons (N := N) (stepGI_cons K p st.sh gi hgk hfx) (stepGI_frame st.sh gi).1
    have hhg := stepGI_hg st.sh gi
    simp only [microStep, hop]
    split
    · rename_i s' evs heq
      simp only [heq] at hc hhg
      refine TCons.of_consC hc rfl rfl (fun a ha => ?_)
      have h1 := regs_fillH N s'.cells st.sh.hreg st.sh.greg h p a hhN hhfree
      simp only [upd_same, uOp, uGI, hhg.1, hhg.2]; omega
    · rename_i heq
      simp only [heq] at hc hhg
      exact TCons.of_consC hc rfl rfl (fun a _ => by simp only [upd_same, uOp, hhg.1, hhg.2])
  | swapSw c x out isStore =>
    simp only [microStep, hop]
    split
    · rename_i old hold
      refine TCons.of_fields rfl rfl (fun a ha => ?_)
      have h1 := regs_setC N st.sh.cells st.sh.hreg st.sh.greg c (some x) a hk
      rw [hold, ind_some, ind_some] at h1
      simp only [upd_same, uOp, uPP, Shared.writeCell]; omega
    · exact TCons.of_fields rfl rfl (fun a _ => by simp only [hop])
  | swapPay c out old isStore pp =>
    obtain ⟨hpk, hout⟩ := hk
    have hc := ConsC.of_cons (N := N)
      ((stepPP_cons K st.cfg old c st.sh (st.th t).loc b pp hpk hn hb hK (fun h r x m e => hnh h r x m (by rw [e]; rfl)) hfx).add_left (u old))
      (stepPP_frame st.cfg old c st.sh (st.th t).loc b pp).1
    have hhg := stepPP_hg st.cfg old c st.sh (st.th t).loc b pp
    simp only [microStep, hop]
    split
    · rename_i s' l' evs heq
      simp only [heq] at hc hhg
      split
      · split
        · rename_i h0
          refine TCons.of_consC hc rfl rfl (fun a ha => ?_)
          simp only [upd_same, uOp, uPP, hhg.1, hhg.2, h0, u_zero a ha]
        · refine TCons.of_consC hc rfl rfl (fun a ha => ?_)
          simp only [upd_same, uOp, uPP, hhg.1, hhg.2]; omega
      · rename_i his
        obtain ⟨houtN, houtfree⟩ := hout (by simpa using his)
        refine TCons.of_consC hc rfl rfl (fun a ha => ?_)
        have h1 := regs_fillH N s'.cells st.sh.hreg st.sh.greg out old a houtN houtfree
        simp only [upd_same, uOp, uPP, hhg.1, hhg.2]; omega
    · rename_i heq
      simp only [heq] at hc hhg
      exact TCons.of_consC hc rfl rfl (fun a _ => by simp only [upd_same, uOp, hhg.1, hhg.2])
  | swapDrop c old =>
    simp only [microStep, hop]
    intro a _
    have h0 := pot_dec K st.sh old a hfx
    have hp : pot K { (decObj st.sh old).1 with busy := upd (decObj st.sh old).1.busy c ((decObj st.sh old).1.busy c - 1) } a
        = pot K (decObj st.sh old).1 a := rfl
    simp only [Shared.regs, upd_same, uOp, decObj_cells, decObj_hreg, decObj_greg] at hp ⊢
    rw [hp]; omega
  | cas c cur keep curPtr new g cp =>
    obtain ⟨hcpk, hcN, hgN, hgfree, hcur⟩ := hk
    have hc : ConsC K N st.sh _ (uOp (.cas c cur keep curPtr new g cp)) _ :=
      (stepCP_cons K N st.cfg c curPtr new st.sh (st.th t).loc b cp hcpk hn hcN hb hK
        (fun old h r x m e => hnh h r x m (by rw [e]; rfl)) hfx).add_right _
    have hhg := stepCP_hg st.cfg c curPtr new st.sh (st.th t).loc b cp
    simp only [microStep, hop]
    split
    · rename_i s' l' old evs heq
      simp only [heq] at hc hhg
      cases cur with
      | null =>
        cases keep with
        | some cg => exact absurd hcur id
        | none =>
          refine TCons.of_consC hc rfl rfl (fun a ha => ?_)
          have h1 := regs_fillG N s'.cells st.sh.hreg st.sh.greg g old a hgN hgfree
          simp only [upd_same, uOp, uCP, uG, gU_none, hhg.1, hhg.2]; omega
      | h hc' =>
        cases keep with
        | some cg => exact absurd hcur id
        | none =>
          obtain ⟨hcN', hcfree⟩ := hcur
          refine TCons.of_consC hc rfl rfl (fun a ha => ?_)
          have h1 := regs_fillH N s'.cells st.sh.hreg st.sh.greg hc' curPtr a hcN' hcfree
          have h2' := regs_fillG N s'.cells (upd st.sh.hreg hc' (some curPtr)) st.sh.greg g old a hgN hgfree
          simp only [upd_same, uOp, uCP, uG, gU_none, hhg.1, hhg.2]; omega
      | g gc =>
        cases keep with
        | none => exact absurd hcur id
        | some cg =>
          obtain ⟨hgcN, hgne, hgcfree⟩ := hcur
          refine TCons.of_consC hc rfl rfl (fun a ha => ?_)
          have h1 := regs_fillG N s'.cells st.sh.hreg st.sh.greg gc cg a hgcN hgcfree
          have h2' := regs_fillG N s'.cells st.sh.hreg (upd st.sh.greg gc (some cg)) g old a hgN
            (by rw [upd_other _ _ _ _ (Ne.symm hgne)]; exact hgfree)
          simp only [upd_same, uOp, uCP, uG, gU_some, hhg.1, hhg.2]; omega
    · rename_i heq
      simp only [heq] at hc hhg
      exact TCons.of_consC hc rfl rfl (fun a _ => by simp only [upd_same, uOp, hhg.1, hhg.2])
  | rcu c out tries rp =>
    obtain ⟨hrk, hcN, hoN, hofree⟩ := hk
    have hc := stepRP_cons K N st.cfg c st.sh (st.th t).loc b tries rp hrk hn hcN hb hK
      (fun cur a old h r x m e => hnh h r x m (by rw [e]; rfl)) (fun _ _ => hroom) hfx
    have hhg := stepRP_hg st.cfg c st.sh (st.th t).loc b tries rp
    simp only [microStep, hop]
    split
    · rename_i s' l' r tries' evs heq
      simp only [heq] at hc hhg
      refine TCons.of_consC hc rfl rfl (fun a ha => ?_)
      have h1 := regs_fillH N s'.cells st.sh.hreg st.sh.greg out r a hoN hofree
      simp only [upd_same, uOp, uRP, hhg.1, hhg.2]; omega
    · rename_i heq
      simp only [heq] at hc hhg
      exact TCons.of_consC hc rfl rfl (fun a _ => by simp only [upd_same, uOp, hhg.1, hhg.2])
  | cinto c h p pp =>
    obtain ⟨hpk, hcN, hhN, hhfree, hcell⟩ := hk
    have hfr := (stepPP_frame st.cfg p c st.sh (st.th t).loc b pp).1
    have hc := ConsC.of_cons (N := N)
      (stepPP_cons K st.cfg p c st.sh (st.th t).loc b pp hpk hn hb hK (fun h r x m e => hnh h r x m (by rw [e]; rfl)) hfx) hfr
    have hhg := stepPP_hg st.cfg p c st.sh (st.th t).loc b pp
    simp only [microStep, hop]
    split
    · rename_i s' l' evs heq
      simp only [heq] at hc hhg hfr
      refine TCons.of_consC hc rfl rfl (fun a ha => ?_)
      have h1 := regs_fillH N st.sh.cells st.sh.hreg st.sh.greg h p a hhN hhfree
      have h2' := regs_takeC N st.sh.cells (upd st.sh.hreg h (some p)) st.sh.greg c p a hcN hcell
      simp only [upd_same, uOp, uPP, hfr, hhg.1, hhg.2]; omega
    · rename_i heq
      simp only [heq] at hc hhg
      exact TCons.of_consC hc rfl rfl (fun a _ => by simp only [upd_same, uOp, hhg.1, hhg.2])
  | dropc c p pp =>
    obtain ⟨hpk, hcN, hcell⟩ := hk
    have hfr := (stepPP_frame st.cfg p c st.sh (st.th t).loc b pp).1
    have hc := ConsC.of_cons (N := N)
      (stepPP_cons K st.cfg p c st.sh (st.th t).loc b pp hpk hn hb hK (fun h r x m e => hnh h r x m (by rw [e]; rfl)) hfx) hfr
    have hhg := stepPP_hg st.cfg p c st.sh (st.th t).loc b pp
    simp only [microStep, hop]
    split
    · rename_i s' l' evs heq
      simp only [heq] at hc hhg hfr
      split
      · rename_i h0
        refine TCons.of_consC hc rfl rfl (fun a ha => ?_)
        have h2' := regs_takeC N st.sh.cells st.sh.hreg st.sh.greg c p a hcN hcell
        have u0 := u_zero a ha
        simp only [upd_same, uOp, uPP, hfr, hhg.1, hhg.2]; rw [h0] at h2'; omega
      · exact TCons.of_consC hc rfl rfl (fun a _ => by simp only [upd_same, uOp, uPP, hhg.1, hhg.2])
    · rename_i heq
      simp only [heq] at hc hhg
      exact TCons.of_consC hc rfl rfl (fun a _ => by simp only [upd_same, uOp, hhg.1, hhg.2])
  | dropcDec c p =>
    obtain ⟨hcN, hcell⟩ := hk
    simp only [microStep, hop]
    intro a _
    have h0 := pot_dec K st.sh p a hfx
    have h2' := regs_takeC N st.sh.cells st.sh.hreg st.sh.greg c p a hcN hcell
    have hp : pot K { (decObj st.sh p).1 with cells := upd (decObj st.sh p).1.cells c none } a
        = pot K (decObj st.sh p).1 a := rfl
    simp only [Shared.regs, upd_same, uOp, decObj_cells, decObj_hreg, decObj_greg] at hp ⊢
    rw [hp]; omega

end M
