import ArcSwapModel.Inv.Haz5

/-!
# The thread that has not confirmed a slot owns the node; a checker for `TameRun`

A thread that has a slot unconfirmed owns the node (`owns_of_unc`), and no two threads own one
node: so every slot of a thread between operations is confirmed and the hazard invariant covers its
borrowed guards (`resting_guard_alive_env`, `Inv/HazD4.lean`).  The checker evaluates `TameRun` on
a concrete execution, here one that ends in the situation that theorem is about.
-/

namespace M
open Consts

/-- a thread that has not confirmed a slot yet owns its node -/
theorem owns_of_unc (th : Thread) (a i : Nat) (h : Unc th.op.lp? a i) : ownsT th = th.loc.node := by
  rcases h with h | h <;> (rw [ownsT_of_lp th _ h]; rfl)

/-! ## Non-vacuity -/

instance instDecidableBelow (N : Nat) (o : Op) : Decidable (o.below N) := by
  cases o with
  | cas c cur nw g => cases cur <;> (simp only [Op.below]; infer_instance)
  | _ => simp only [Op.below] <;> infer_instance

def tameB (N : Nat) (st : State) (t : Nat) : Bool :=
  match (st.th t).op, (st.th t).prog with
  | .idle, (_, o) :: _ =>
    decide (o.below N) &&
      (match o with
       | .mk c _ => (st.sh.cells c).isNone
       | .cinto _ _ => false
       | .dropc _ => false
       | _ => true)
  | _, _ => true

theorem tame_of_tameB {N : Nat} {st : State} {t : Nat} (h : tameB N st t = true) : Tame N st t := by
  intro hidle txt o rest hp
  simp only [tameB, hidle, hp, Bool.and_eq_true, decide_eq_true_eq] at h
  refine ⟨h.1, ?_⟩
  have h2 := h.2
  cases o <;> first | trivial | (simpa using h2) | (simp at h2)

def tameRunB (N : Nat) : State → List (Nat × Bool) → Bool
  | _, [] => true
  | st, (t, b) :: rest => tameB N st t && tameRunB N (microStep st t b).1 rest

theorem tameRun_of_B {N : Nat} {st : State} {sched : List (Nat × Bool)} (h : tameRunB N st sched = true) :
    TameRun N st sched := by
  induction sched generalizing st with
  | nil => trivial
  | cons x rest ih =>
    obtain ⟨t, b⟩ := x
    simp only [tameRunB, Bool.and_eq_true] at h
    exact ⟨tame_of_tameB h.1, ih h.2⟩

/-- thread 0 creates a value and a container and loads from it; thread 1 creates another value and
    starts storing it -/
def hazEx : State := State.initial {} (fun t =>
  if t = 0 then [("new h0 5", .new 0 5), ("mk c0 h0", .mk 0 0), ("load c0 g0", .load 0 0)]
  else if t = 1 then [("new h1 6", .new 1 6), ("store c0 h1", .store 0 1)] else [])
def hazSched : List (Nat × Bool) := List.replicate 12 (0, false) ++ List.replicate 3 (1, false)

/-- non-vacuity: after thread 0's load and the exchange of thread 1's store, thread 0 rests with a
    borrowed guard (slot 0 of its node 0 names value 1), value 1 is in no container any more (the
    container holds 2), thread 1 is at the start of its walk for value 1, and the execution is tame
    and fault-free — the situation `borrowed_guard_of_resting_thread_alive` is about -/
example : TameRun 4 hazEx hazSched ∧ ((run hazEx hazSched).th 0).op = .idle ∧
    ((run hazEx hazSched).th 0).loc.node = some 0 ∧ ((run hazEx hazSched).sh.nodes 0).fast 0 = .ptr 1 ∧
    (run hazEx hazSched).sh.cells 0 = some 2 ∧ (run hazEx hazSched).sh.fault = none ∧
    ((run hazEx hazSched).th 1).op.walk? = some (1, .start) :=
  ⟨tameRun_of_B (by decide +kernel), by decide +kernel⟩

end M
