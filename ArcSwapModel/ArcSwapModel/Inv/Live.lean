import ArcSwapModel.Inv.Alive

/-!
# A counted object is alive

The machine keeps a `live` flag beside the count: allocation sets it, the decrement that takes the
count to zero clears it (that step *is* the destruction), and every count operation on an object
whose flag is clear is a use-after-free fault.  `HeapOk`: in every reachable state an object with a
positive count is alive.  With `Inv/Alive.lean`: what a container or a handle denotes has not been
destroyed.
-/

namespace M
open Consts

def HeapOk (h : Nat → Obj) : Prop := ∀ a, 1 ≤ (h a).cnt → (h a).live = true

theorem HeapOk.upd {h : Nat → Obj} (hk : HeapOk h) (a : Nat) (o : Obj) (ho : 1 ≤ o.cnt → o.live = true) :
    HeapOk (upd h a o) := by
  intro x hx
  by_cases e : x = a
  · subst e; rw [upd_same] at hx ⊢; exact ho hx
  · rw [upd_other _ _ _ _ e] at hx ⊢; exact hk x hx

theorem HeapOk.incObj {s : Shared} (h : HeapOk s.heap) (a : Nat) : HeapOk (incObj s a).1.heap := by
  simp only [M.incObj]
  split
  · rename_i hl; exact h.upd a _ (fun _ => hl)
  · rw [setFault_heap]; exact h

theorem HeapOk.decObj {s : Shared} (h : HeapOk s.heap) (a : Nat) : HeapOk (decObj s a).1.heap := by
  simp only [M.decObj]
  split
  · rename_i hl
    split
    · rw [setFault_heap]; exact h
    · split
      · exact h.upd a _ (fun h0 => absurd h0 (Nat.not_succ_le_zero 0))
      · exact h.upd a _ (fun _ => hl)
  · rw [setFault_heap]; exact h

theorem HeapOk.alloc {s : Shared} (h : HeapOk s.heap) (v : Nat) : HeapOk (alloc s v).1.heap :=
  h.upd _ _ (fun _ => rfl)

theorem Upd1.heapOk {s s' : Shared} (h : Upd1 s s') (hk : HeapOk s.heap) : HeapOk s'.heap := by
  cases h with
  | fault f => rw [setFault_heap]; exact hk
  | inc a => exact hk.incObj a
  | dec a => exact hk.decObj a
  | alloc v => exact hk.alloc v
  | _ => exact hk

theorem microStep_heapOk (st : State) (t : Nat) (b : Bool) (h : HeapOk st.sh.heap) :
    HeapOk (microStep st t b).1.sh.heap :=
  microStep_keeps (P := fun s => HeapOk s.heap) (fun _ _ h1 => h1.heapOk) (fun _ _ he hx => he.heap ▸ hx) st t b h

/-- **in every reachable state an object with a positive count is alive** -/
theorem HeapOk.reachable {st : State} (h : Reachable st) : HeapOk st.sh.heap :=
  h.induct (P := fun st => HeapOk st.sh.heap) (fun _ _ _ ha => absurd ha (Nat.not_succ_le_zero 0))
    (fun st t b _ => microStep_heapOk st t b)

/-- what a container holds has not been destroyed -/
theorem stored_value_live (K N T : Nat) (hK : 0 < K) (cfg : Cfg) (progs : Nat → List (String × Op))
    (sched : List (Nat × Bool)) (he : EnvRun0 K N T (State.initial cfg progs) sched)
    (hf : (run (State.initial cfg progs) sched).sh.fault = none) (a : Nat) (ha : a ≠ 0)
    (c : Nat) (hc : c < N) (hcell : (run (State.initial cfg progs) sched).sh.cells c = some a) :
    ((run (State.initial cfg progs) sched).sh.heap a).live = true :=
  HeapOk.reachable ⟨cfg, progs, sched, rfl⟩ a (stored_value_counted K N T hK cfg progs sched he hf a ha c hc hcell)

/-- what a handle denotes has not been destroyed -/
theorem handle_value_live (K N T : Nat) (hK : 0 < K) (cfg : Cfg) (progs : Nat → List (String × Op))
    (sched : List (Nat × Bool)) (he : EnvRun0 K N T (State.initial cfg progs) sched)
    (hf : (run (State.initial cfg progs) sched).sh.fault = none) (a : Nat) (ha : a ≠ 0)
    (h : Nat) (hh : h < N) (hreg : (run (State.initial cfg progs) sched).sh.hreg h = some a) :
    ((run (State.initial cfg progs) sched).sh.heap a).live = true :=
  HeapOk.reachable ⟨cfg, progs, sched, rfl⟩ a (handle_value_counted K N T hK cfg progs sched he hf a ha h hh hreg)

end M
