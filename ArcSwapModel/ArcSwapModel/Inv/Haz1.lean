import ArcSwapModel.Inv.Haz0

/-!
# Tools for the hazard invariant: the cells

A value leaves a container only by an exchange (`swap`/`store`, the successful exchange of
`compare_and_swap`), and the thread that took it out starts walking the list for it at once
(`microStep_cells`) — as long as containers are created on fresh cells only and none is destroyed
(`Tame`; destruction needs exclusive access, which in Rust is the type system's business and in the
model the harness's `busy` discipline).
-/

namespace M
open Consts

theorem stepCP_cxok (cfg : Cfg) (c cur new : Nat) (s : Shared) (l : Locals) (b : Bool) (cp : CP) (h : cp.cxok cur) :
    (stepCP cfg c cur new s l b cp).2.2.1.cxok cur := by
  cases cp with
  | load ld =>
    rw [stepCP_load]
    generalize (stepLP cfg c s l b ld).2.2.1 = ld'
    cases ld' <;> first | trivial | skip
    simp only [CP.afterLoad]
    (repeat' split) <;> first | trivial | exact Decidable.of_not_not (p := _ = cur) ‹_›
  | cx old => simp only [stepCP]; (repeat' split) <;> first | trivial | exact h
  | _ => simp only [stepCP] <;> (repeat' split) <;> trivial

theorem stepRP_cxok (cfg : Cfg) (c : Nat) (s : Shared) (l : Locals) (b : Bool) (tries : Nat) (rp : RP) (h : rp.cxok) :
    (stepRP cfg c s l b tries rp).2.2.1.cxok := by
  cases rp with
  | cas cur x cp =>
    have h1 := stepCP_cxok cfg c cur.ptr x s l b cp h
    rw [stepRP_cas]
    generalize (stepCP cfg c cur.ptr x s l b cp).2.2.1 = cp' at h1
    cases cp' <;> first | exact h1 | (simp only [RP.afterCas]; (repeat' split) <;> trivial)
  | _ => simp only [stepRP] <;> (repeat' split) <;> trivial

theorem OpSt.next_cxok (cfg : Cfg) (s : Shared) (l : Locals) (b : Bool) (op : OpSt) (h : op.cxok) :
    (op.next cfg s l b).1.cxok := by
  cases op with
  | cas c cur keep curPtr new g cp =>
    have h1 := stepCP_cxok cfg c curPtr new s l b cp h
    simp only [OpSt.next]
    generalize (stepCP cfg c curPtr new s l b cp).2.2.1 = cp' at h1
    cases cp' <;> first | exact h1 | trivial
  | rcu c out tries rp =>
    have h1 := stepRP_cxok cfg c s l b tries rp h
    simp only [OpSt.next]
    generalize (stepRP cfg c s l b tries rp).2.2.1 = rp' at h1
    cases rp' <;> first | exact h1 | trivial
  | _ => simp only [OpSt.next] <;> (repeat' split) <;> trivial

theorem microStep_cxok (st : State) (t : Nat) (b : Bool) (h : (st.th t).op.cxok) :
    ((microStep st t b).1.th t).op.cxok := by
  by_cases hop : (st.th t).op = .idle
  · exact (microStep_idle st t b hop).2.1
  · rw [(microStep_next st t b hop).1]; exact OpSt.next_cxok _ _ _ _ _ h

theorem cxok_reachable {st : State} (h : Reachable st) (t : Nat) : (st.th t).op.cxok := by
  refine Reachable.induct (P := fun st => ∀ t, (st.th t).op.cxok) (fun _ _ _ => trivial) (fun st u b _ h0 t' => ?_) h t
  by_cases e : t' = u
  · subst e; exact microStep_cxok st t' b (h0 t')
  · rw [microStep_th_other st u b e]; exact h0 t'

def Tame (N : Nat) (st : State) (t : Nat) : Prop :=
  (st.th t).op = .idle → ∀ txt o rest, (st.th t).prog = (txt, o) :: rest →
    o.below N ∧
    match o with
    | .mk c _ => st.sh.cells c = none
    | .cinto _ _ => False
    | .dropc _ => False
    | _ => True

theorem stepCP_cells_cases (cfg : Cfg) (c cur new : Nat) (s : Shared) (l : Locals) (b : Bool) (cp : CP) :
    (stepCP cfg c cur new s l b cp).1.cells = s.cells ∨
      ∃ old, cp = .cx old ∧ s.cells c = some cur ∧ (stepCP cfg c cur new s l b cp).1.cells = upd s.cells c (some new) ∧
        (stepCP cfg c cur new s l b cp).2.2.1 = .pay old .start := by
  cases cp with
  | load ld => rw [stepCP_load]; exact Or.inl (stepLP_frame cfg c s l b ld).1
  | pay old pp => rw [stepCP_pay]; exact Or.inl (stepPP_frame cfg old.ptr c s l b pp).1
  | dropOld gd => rw [stepCP_dropOld]; exact Or.inl (stepGD_cells s gd)
  | cx old =>
    simp only [stepCP]
    cases hq : s.cells c with
    | none => exact Or.inl (setFault_cells ..)
    | some q =>
      dsimp only
      split
      · rename_i hx
        simp only [Bool.and_eq_true, Bool.not_eq_eq_eq_not, Bool.not_true, decide_eq_true_eq] at hx
        exact Or.inr ⟨old, rfl, by rw [hx.2], rfl, rfl⟩
      · exact Or.inl rfl
  | dropNew old => exact Or.inl (decObj_cells ..)
  | decOld old => exact Or.inl (decObj_cells ..)
  | done old => exact Or.inl rfl

theorem stepRP_cells_cases (cfg : Cfg) (c : Nat) (s : Shared) (l : Locals) (b : Bool) (tries : Nat) (rp : RP) :
    (stepRP cfg c s l b tries rp).1.cells = s.cells ∨
      ∃ cur new old, rp = .cas cur new (.cx old) ∧ s.cells c = some cur.ptr ∧
        (stepRP cfg c s l b tries rp).1.cells = upd s.cells c (some new) ∧
        (stepRP cfg c s l b tries rp).2.2.1 = .cas cur new (.pay old .start) := by
  cases rp with
  | load ld => rw [stepRP_load]; exact Or.inl (stepLP_frame cfg c s l b ld).1
  | cas cur x cp =>
    rw [stepRP_cas]
    refine (stepCP_cells_cases cfg c cur.ptr x s l b cp).imp id (fun ⟨old, h1, h2, h3, h4⟩ => ?_)
    exact ⟨cur, x, old, by rw [h1], h2, h3, by rw [h4]; rfl⟩
  | intoPrev cur prev gi => rw [stepRP_intoPrev]; exact Or.inl (stepGI_cells s gi)
  | dropCur res gd => rw [stepRP_dropCur]; exact Or.inl (stepGD_cells s gd)
  | dropCurLoop prev gd => rw [stepRP_dropCurLoop]; exact Or.inl (stepGD_cells s gd)
  | attempt cur => left; simp only [stepRP, alloc]; split <;> simp only [setFault_cells]
  | done r => exact Or.inl rfl

theorem OpSt.cellsNext_cases (cfg : Cfg) (s : Shared) (l : Locals) (b : Bool) (op : OpSt) :
    op.cellsNext cfg s l b = s.cells ∨
      (∃ c old new, op.cell? = some c ∧ op.cons = false ∧ s.cells c = some old ∧
        op.cellsNext cfg s l b = upd s.cells c (some new) ∧
        (op.cxok → (op.next cfg s l b).1.walk? = some (old, .start))) ∨
      (∃ c, op.cell? = some c ∧ op.cons = true ∧ op.cellsNext cfg s l b = upd s.cells c none ∧
        (op.next cfg s l b).1 = .idle) := by
  cases op with
  | swapSw c a out isStore =>
    cases hq : s.cells c with
    | none => exact Or.inl (if_pos hq)
    | some old =>
      refine Or.inr (Or.inl ⟨c, old, a, rfl, rfl, hq, if_neg (by rw [hq]; nofun), fun _ => ?_⟩)
      simp only [OpSt.next, hq]; rfl
  | cas c cur keep curPtr new g cp =>
    refine (stepCP_cells_cases cfg c curPtr new s l b cp).imp id (fun ⟨old, h1, h2, h3, h4⟩ => Or.inl ?_)
    subst h1
    refine ⟨c, curPtr, new, rfl, rfl, h2, h3, fun hx => ?_⟩
    simp only [OpSt.next, h4]; exact congrArg (fun x => some (x, PP.start)) hx
  | rcu c out tries rp =>
    refine (stepRP_cells_cases cfg c s l b tries rp).imp id (fun ⟨cur, new, old, h1, h2, h3, h4⟩ => Or.inl ?_)
    subst h1
    refine ⟨c, cur.ptr, new, rfl, rfl, h2, h3, fun hx => ?_⟩
    simp only [OpSt.next, h4]; exact congrArg (fun x => some (x, PP.start)) hx
  | cinto c x p pp =>
    simp only [OpSt.cellsNext, OpSt.next, (stepPP_frame cfg p c s l b pp).1]
    split
    · rename_i hd; exact Or.inr (Or.inr ⟨c, rfl, rfl, rfl, by rw [hd]⟩)
    · exact Or.inl rfl
  | dropc c p pp =>
    simp only [OpSt.cellsNext, OpSt.next, (stepPP_frame cfg p c s l b pp).1]
    split
    · rename_i hd; exact Or.inr (Or.inr ⟨c, rfl, rfl, rfl, by rw [hd.1, hd.2]; rfl⟩)
    · exact Or.inl rfl
  | dropcDec c p => exact Or.inr (Or.inr ⟨c, rfl, rfl, rfl, rfl⟩)
  | load c g ld | loadFull c g ld => exact Or.inl (stepLP_frame cfg c s l b ld).1
  | loadFullInto c h p gi | ginto h p gi => exact Or.inl (stepGI_cells s gi)
  | dropg gd => exact Or.inl (stepGD_cells s gd)
  | exitCool cd => exact Or.inl (stepCD_frame s cd).1
  | swapPay c out old isStore pp => exact Or.inl (stepPP_frame cfg old c s l b pp).1
  | cloneh h h2 a => exact Or.inl (incObj_cells s a)
  | droph a | swapDrop c a => exact Or.inl (decObj_cells s a)
  | idle | finished => exact Or.inl rfl

theorem microStep_cells_cases (st : State) (t : Nat) (b : Bool) :
    (microStep st t b).1.sh.cells = st.sh.cells ∨
      (∃ c old new, (st.th t).op.cell? = some c ∧ (st.th t).op.cons = false ∧ st.sh.cells c = some old ∧
        (microStep st t b).1.sh.cells = upd st.sh.cells c (some new) ∧
        ((st.th t).op.cxok → ((microStep st t b).1.th t).op.walk? = some (old, .start))) ∨
      (∃ c, (st.th t).op.cell? = some c ∧ (st.th t).op.cons = true ∧
        (microStep st t b).1.sh.cells = upd st.sh.cells c none ∧ ((microStep st t b).1.th t).op = .idle) ∨
      (∃ txt c x rest a, (st.th t).op = .idle ∧ (st.th t).prog = (txt, .mk c x) :: rest ∧
        (microStep st t b).1.sh.cells = upd st.sh.cells c (some a)) := by
  by_cases hop : (st.th t).op = .idle
  · rcases (microStep_idle st t b hop).2.2 with ⟨_, _, h, _⟩ | ⟨txt, o, rest, hp, h⟩
    · exact Or.inl (by rw [h])
    · rcases h with ⟨_, _, _, _, h | ⟨c, x, a, rfl, h⟩⟩ | ⟨_, _, _, _, _, _, _, h, _⟩ | ⟨_, _, _, _, _, _, _, _, h, _⟩
      · exact Or.inl h
      · exact Or.inr (Or.inr (Or.inr ⟨txt, c, x, rest, a, hop, hp, h⟩))
      · exact Or.inl h
      · exact Or.inl h
  · obtain ⟨ho, _, hc, _⟩ := microStep_next st t b hop
    rw [ho, hc]
    exact (OpSt.cellsNext_cases ..).imp id (Or.imp id Or.inl)

theorem microStep_cells {N : Nat} (st : State) (t : Nat) (b : Bool) (hx : (st.th t).op.cxok) (htame : Tame N st t)
    (hnc : (st.th t).op.cons = false) (c' a : Nat) (hc : st.sh.cells c' = some a) :
    (microStep st t b).1.sh.cells c' = some a ∨
      (((microStep st t b).1.th t).op.walk? = some (a, .start) ∧ (microStep st t b).1.sh.cells c' ≠ none) := by
  rcases microStep_cells_cases st t b with e | ⟨c, old, new, _, _, hq, e, hw⟩ | ⟨c, _, h, _⟩ |
      ⟨txt, c, x, rest, a', hop, hp, e⟩
  · exact Or.inl (by rw [e, hc])
  · rw [e]
    by_cases ec : c' = c
    · subst ec
      rw [hc] at hq; cases hq
      exact Or.inr ⟨hw hx, by rw [upd_same]; nofun⟩
    · exact Or.inl (by rw [upd_other _ _ _ _ ec, hc])
  · rw [hnc] at h; cases h
  · have hn : st.sh.cells c = none := (htame hop txt _ rest hp).2
    exact Or.inl (by rw [e, upd_other _ _ _ _ (fun ec => by rw [ec, hn] at hc; cases hc), hc])

end M
