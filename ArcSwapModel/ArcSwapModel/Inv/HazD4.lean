import ArcSwapModel.Inv.HazD3

/-!
# Every guard in a register keeps its value alive — also when containers are consumed and dropped

The ledger's assumptions (`EnvRun0`) already contain what the hazard invariant needs
(`TameRun2.of_env`), so nothing else is asked of the execution.
-/

namespace M
open Consts

/-- a slot that is claimed more often than it names the value: one of the claimants has been paid,
    so the ledger leaves the value a positive count (`i = slotCnt` is the helping slot) -/
theorem counted_of_overclaimed (K N T : Nat) (hK : 0 < K) (cfg : Cfg) (progs : Nat → List (String × Op))
    (sched : List (Nat × Bool)) (he : EnvRun0 K N T (State.initial cfg progs) sched)
    (hf : (run (State.initial cfg progs) sched).sh.fault = none) (a : Nat) (ha : a ≠ 0)
    (n i : Nat) (hn : n < K) (hi : i < slotCnt + 1)
    (hover : named ((run (State.initial cfg progs) sched).sh.nodes n) a i + 1 ≤
      sumN (fun g => cnt2 (gClaims a ((run (State.initial cfg progs) sched).sh.greg g)) n i) N +
      sumN (fun t => cnt2 (((run (State.initial cfg progs) sched).th t).op.claims a
        ((run (State.initial cfg progs) sched).th t).loc) n i) T) :
    1 ≤ ((run (State.initial cfg progs) sched).sh.heap a).cnt := by
  have hl := C02_ledger_final K N T hK cfg progs sched he hf a ha
  have hocc := occ_lt_claims K N T _ a (holdInv_of_env cfg progs sched he hf)
    (HHoldInv.reachable ⟨cfg, progs, sched, rfl⟩ hf) (gregBelow_run N sched (RegRun.of_env he) (fun _ _ => rfl))
    (idleBeyond_run sched he (fun _ _ => rfl)) n i hn hi hover
  have hG : sumN (fun g => (gClaims a ((run (State.initial cfg progs) sched).sh.greg g)).length) N ≤
      sumN (fun g => gU ((run (State.initial cfg progs) sched).sh.greg g) a) N :=
    sumN_le (fun g _ => gClaims_len _ a)
  have hT : sumN (fun t => (((run (State.initial cfg progs) sched).th t).op.claims a
        ((run (State.initial cfg progs) sched).th t).loc).length) T ≤
      threadsU T (run (State.initial cfg progs) sched) a :=
    sumN_le (fun t _ => OpSt.claims_len _ _ a)
  simp only [pot, Shared.regs, regs] at hl
  omega

theorem ind_le_one (p : Prop) [Decidable p] : ind p ≤ 1 := by
  unfold ind; split <;> omega

theorem unc_lt {K N T : Nat} {cfg : Cfg} {progs : Nat → List (String × Op)} {sched : List (Nat × Bool)}
    (he : EnvRun0 K N T (State.initial cfg progs) sched) {o a i : Nat}
    (hu : Unc ((run (State.initial cfg progs) sched).th o).op.lp? a i) : o < T :=
  Nat.lt_of_not_le (fun hle => idle_not_unc (idleBeyond_run sched he (fun _ _ => rfl) o hle) a i hu)

/-- **a claimed fast slot keeps the value alive**: somebody claims slot `(n, i)` for `a`, and if the
    slot's owner is publishing `a` through it and has not confirmed yet (which makes the owner a
    claimant) there are two claims.  Either the slot does not name `a`, or it is claimed twice —
    then one claimant has been paid — or it is confirmed and the hazard invariant covers it. -/
theorem claimed_slot_alive (K N T : Nat) (hK : 0 < K) (cfg : Cfg) (progs : Nat → List (String × Op))
    (sched : List (Nat × Bool)) (he : EnvRun0 K N T (State.initial cfg progs) sched)
    (hf : (run (State.initial cfg progs) sched).sh.fault = none) (a : Nat) (ha : a ≠ 0)
    (n i : Nat) (hn : n < K) (hi : i < slotCnt)
    (h1 : 1 ≤ sumN (fun g => cnt2 (gClaims a ((run (State.initial cfg progs) sched).sh.greg g)) n i) N +
      sumN (fun t => cnt2 (((run (State.initial cfg progs) sched).th t).op.claims a
        ((run (State.initial cfg progs) sched).th t).loc) n i) T)
    (h2 : ∀ o, ((run (State.initial cfg progs) sched).th o).loc.node = some n →
      Unc ((run (State.initial cfg progs) sched).th o).op.lp? a i →
      2 ≤ sumN (fun g => cnt2 (gClaims a ((run (State.initial cfg progs) sched).sh.greg g)) n i) N +
        sumN (fun t => cnt2 (((run (State.initial cfg progs) sched).th t).op.claims a
          ((run (State.initial cfg progs) sched).th t).loc) n i) T) :
    1 ≤ ((run (State.initial cfg progs) sched).sh.heap a).cnt := by
  have over := counted_of_overclaimed K N T hK cfg progs sched he hf a ha n i hn (Nat.lt_succ_of_lt hi)
  by_cases hs : ((run (State.initial cfg progs) sched).sh.nodes n).fast i = .ptr a
  · by_cases hu : ∃ o, ((run (State.initial cfg progs) sched).th o).loc.node = some n ∧
        Unc ((run (State.initial cfg progs) sched).th o).op.lp? a i
    · obtain ⟨o, hno, huo⟩ := hu
      have e0 : named ((run (State.initial cfg progs) sched).sh.nodes n) a i ≤ 1 := ind_le_one _
      have := h2 o hno huo
      exact over (by omega)
    · exact (confirmed_slot_value_alive K N T hK cfg progs sched he (TameRun2.of_env he) hf a ha n i hi hs
        (fun o hno huo => hu ⟨o, hno, huo⟩)).1
  · have e1 : named ((run (State.initial cfg progs) sched).sh.nodes n) a i = 0 := by
      simp only [named, hi, ↓reduceIte, ind, hs]
    exact over (by omega)

/-- **every guard in a register keeps its value alive.**  Along every execution that satisfies the
    assumptions of the ledger (registers not raced on, containers created on fresh cells, the
    pool not exhausted, at most `K` nodes, no successful hand-over) and that has raised no fault —
    containers may be consumed and dropped at any time: the value of every guard in a register — borrowed or
    not, paid or not, whatever the thread that made it and all the others are doing — has a
    positive count and has not been destroyed.

    A guard handed to the caller has no debt (it owns a reference), or a debt in a *fast* slot (the
    fallback path pays its helping-slot debt before it returns), which it claims. -/
theorem guard_value_alive_env (K N T : Nat) (hK : 0 < K) (cfg : Cfg) (progs : Nat → List (String × Op))
    (sched : List (Nat × Bool)) (he : EnvRun0 K N T (State.initial cfg progs) sched)
    (hf : (run (State.initial cfg progs) sched).sh.fault = none) (a : Nat) (ha : a ≠ 0)
    (g : Nat) (hg : g < N) (gd : Guard) (hreg : (run (State.initial cfg progs) sched).sh.greg g = some gd)
    (hp : gd.ptr = a) :
    1 ≤ ((run (State.initial cfg progs) sched).sh.heap a).cnt ∧
      ((run (State.initial cfg progs) sched).sh.heap a).live = true := by
  suffices hcnt : 1 ≤ ((run (State.initial cfg progs) sched).sh.heap a).cnt from
    ⟨hcnt, HeapOk.reachable ⟨cfg, progs, sched, rfl⟩ a hcnt⟩
  cases hd : gd.debt with
  | none => exact owned_guard_counted K N T hK cfg progs sched he hf a ha g hg gd hreg hp hd
  | some ni =>
    obtain ⟨n, i⟩ := ni
    obtain ⟨hnK, hiS⟩ := (Wf.run0 hK (Wf.initial K cfg progs) sched he).greg g gd hreg n i hd
    have c1 : 1 ≤ cnt2 (gClaims a ((run (State.initial cfg progs) sched).sh.greg g)) n i := by
      rw [hreg]; exact cnt2_pos (Guard.claims_of_holds ⟨hp, hd⟩)
    have s1 := @sumN_term (fun g => cnt2 (gClaims a ((run (State.initial cfg progs) sched).sh.greg g)) n i) N g hg
    refine claimed_slot_alive K N T hK cfg progs sched he hf a ha n i hnK hiS (by omega) (fun o hno huo => ?_)
    have c2 : 1 ≤ cnt2 (((run (State.initial cfg progs) sched).th o).op.claims a
        ((run (State.initial cfg progs) sched).th o).loc) n i :=
      cnt2_pos (OpSt.claims_of_holds (holds_of_unc _ n i a hno huo))
    have s2 := @sumN_term (fun t => cnt2 (((run (State.initial cfg progs) sched).th t).op.claims a
        ((run (State.initial cfg progs) sched).th t).loc) n i) T o (unc_lt he huo)
    omega

theorem deref_no_fault (s : Shared) (p : Nat) (f : Fault) (h : p ≠ 0 → (s.heap p).live = true) :
    (if p ≠ 0 ∧ (!(s.heap p).live) = true then s.setFault f else s) = s := by
  rw [if_neg]; intro ⟨h0, hl⟩; rw [h h0] at hl; cases hl

/-- **dereferencing a guard raises no fault**: the access through any guard in a register finds
    the value alive (the model's `gderef` raises a use-after-free fault otherwise) -/
theorem gderef_no_fault_env (K N T : Nat) (hK : 0 < K) (cfg : Cfg) (progs : Nat → List (String × Op))
    (sched : List (Nat × Bool)) (he : EnvRun0 K N T (State.initial cfg progs) sched)
    (hf : (run (State.initial cfg progs) sched).sh.fault = none)
    (t g : Nat) (hg : g < N) (b : Bool) (txt : String) (rest : List (String × Op))
    (hidle : ((run (State.initial cfg progs) sched).th t).op = .idle)
    (hprog : ((run (State.initial cfg progs) sched).th t).prog = (txt, .gderef g) :: rest) :
    (microStep (run (State.initial cfg progs) sched) t b).1.sh.fault = none := by
  simp only [microStep, hidle, hprog, beginOp]
  cases hreg : (run (State.initial cfg progs) sched).sh.greg g with
  | none => exact hf
  | some gd =>
    dsimp only
    rw [deref_no_fault _ _ _ (fun h0 => (guard_value_alive_env K N T hK cfg progs sched he hf gd.ptr h0 g hg gd hreg rfl).2)]
    exact hf

/-- `gderef_no_fault_env` for executions that destroy no container (`TameRun`), which it does not need -/
theorem gderef_no_fault (K N T : Nat) (hK : 0 < K) (cfg : Cfg) (progs : Nat → List (String × Op))
    (sched : List (Nat × Bool)) (he : EnvRun0 K N T (State.initial cfg progs) sched)
    (ht : TameRun N (State.initial cfg progs) sched)
    (hf : (run (State.initial cfg progs) sched).sh.fault = none)
    (t g : Nat) (hg : g < N) (b : Bool) (txt : String) (rest : List (String × Op))
    (hidle : ((run (State.initial cfg progs) sched).th t).op = .idle)
    (hprog : ((run (State.initial cfg progs) sched).th t).prog = (txt, .gderef g) :: rest) :
    (microStep (run (State.initial cfg progs) sched) t b).1.sh.fault = none :=
  gderef_no_fault_env K N T hK cfg progs sched he hf t g hg b txt rest hidle hprog

/-- **a guard outlives its container**: thread `o` rests on a borrowed guard (slot `i` of its node
    names `a`); whatever the others do meanwhile — replace the value, consume or drop the
    container — `a` stays alive -/
theorem resting_guard_alive_env (K N T : Nat) (hK : 0 < K) (cfg : Cfg) (progs : Nat → List (String × Op))
    (sched : List (Nat × Bool)) (he : EnvRun0 K N T (State.initial cfg progs) sched)
    (hf : (run (State.initial cfg progs) sched).sh.fault = none) (a : Nat) (ha : a ≠ 0)
    (o n i : Nat) (hi : i < slotCnt)
    (hidle : ((run (State.initial cfg progs) sched).th o).op = .idle)
    (hnode : ((run (State.initial cfg progs) sched).th o).loc.node = some n)
    (hs : ((run (State.initial cfg progs) sched).sh.nodes n).fast i = .ptr a) :
    1 ≤ ((run (State.initial cfg progs) sched).sh.heap a).cnt ∧
      ((run (State.initial cfg progs) sched).sh.heap a).live = true := by
  refine confirmed_slot_value_alive K N T hK cfg progs sched he (TameRun2.of_env he) hf a ha n i hi hs (fun o' hn' hu => ?_)
  have hown := OwnInv.reachable ⟨cfg, progs, sched, rfl⟩
  have h1 : ownsT ((run (State.initial cfg progs) sched).th o') = some n := by rw [owns_of_unc _ a i hu]; exact hn'
  have h2 : ownsT ((run (State.initial cfg progs) sched).th o) = some n := by
    unfold ownsT; rw [hidle]; exact hnode
  by_cases e : o' = o
  · subst e; exact idle_not_unc hidle a i hu
  · exact hown.excl o' o n e h1 h2

/-- **the borrowed guard of a thread between operations**: `resting_guard_alive_env` for executions
    that destroy no container (`TameRun`), which it does not need -/
theorem borrowed_guard_of_resting_thread_alive (K N T : Nat) (hK : 0 < K) (cfg : Cfg) (progs : Nat → List (String × Op))
    (sched : List (Nat × Bool)) (he : EnvRun0 K N T (State.initial cfg progs) sched)
    (ht : TameRun N (State.initial cfg progs) sched)
    (hf : (run (State.initial cfg progs) sched).sh.fault = none) (a : Nat) (ha : a ≠ 0)
    (o n i : Nat) (hi : i < slotCnt)
    (hidle : ((run (State.initial cfg progs) sched).th o).op = .idle)
    (hnode : ((run (State.initial cfg progs) sched).th o).loc.node = some n)
    (hs : ((run (State.initial cfg progs) sched).sh.nodes n).fast i = .ptr a) :
    1 ≤ ((run (State.initial cfg progs) sched).sh.heap a).cnt ∧
      ((run (State.initial cfg progs) sched).sh.heap a).live = true :=
  resting_guard_alive_env K N T hK cfg progs sched he hf a ha o n i hi hidle hnode hs

theorem HazInv.of_D {N : Nat} {st : State} {L : List Nat} (h : HazInvD N st L) (hn : NoCons st) : HazInv N st L := by
  refine ⟨h.named, fun n i a hi hs => ?_⟩
  rcases h.haz n i a hi hs with ⟨c, hc, hcell, _⟩ | ⟨w, pp, hw, hah⟩ | hu | ⟨o, c, _, _, _, _, hd⟩
  · exact Or.inl ⟨c, hc, hcell⟩
  · rcases OpSt.walkC_cases hw with hw' | ⟨_, _, hc⟩
    · exact Or.inr (Or.inl ⟨w, pp, hw', hah⟩)
    · rw [hn w] at hc; cases hc
  · exact Or.inr (Or.inr hu)
  · have hc := (OpSt.consWalk_cons (OpSt.destroys.consWalk hd)).1
    rw [hn o] at hc; cases hc

theorem HazAll.of_D {N T : Nat} {st : State} {L : List Nat} (h : HazAllD N T st L) (hn : NoCons st) : HazAll N st L :=
  ⟨.of_D h.haz hn, h.own, h.node, .of_C h.walk, h.cx, hn,
    fun t c hc => ⟨(h.busy.free t c hc (hn t)).1, (h.busy.free t c hc (hn t)).2.1⟩⟩

theorem Tame.tame2 {N : Nat} {st : State} {t : Nat} (h : Tame N st t) : Tame2 N st t :=
  fun hidle txt o rest hp => ⟨(h hidle txt o rest hp).1, fun c x e => by subst e; exact (h hidle txt _ rest hp).2⟩

theorem TameRun.hazAll {N T : Nat} {st : State} {L : List Nat} {sched : List (Nat × Bool)} (ht : TameRun N st sched)
    (hT : ∀ x ∈ sched, x.1 < T) (h : HazAllD N T st L) (hn : NoCons st) : ∃ L', HazAll N (run st sched) L' := by
  induction sched generalizing st L with
  | nil => exact ⟨L, .of_D h hn⟩
  | cons x rest ih =>
    obtain ⟨pre, hpre⟩ := h.step x.1 (hT x List.mem_cons_self) x.2 ht.1.tame2
    exact ih ht.2 (fun y hy => hT y (List.mem_cons_of_mem _ hy)) hpre (hn.step x.1 x.2 ht.1)

theorem HazAll.of_tameRun (N : Nat) (cfg : Cfg) (progs : Nat → List (String × Op)) (sched : List (Nat × Bool))
    (ht : TameRun N (State.initial cfg progs) sched) : ∃ L, HazAll N (run (State.initial cfg progs) sched) L := by
  have bound : ∀ sched : List (Nat × Bool), ∃ T, ∀ x ∈ sched, x.1 < T := fun sched => by
    induction sched with
    | nil => exact ⟨0, nofun⟩
    | cons x rest ih =>
      obtain ⟨T, hT⟩ := ih
      refine ⟨T + x.1 + 1, fun y hy => ?_⟩
      rcases List.mem_cons.mp hy with rfl | hy
      · omega
      · exact Nat.lt_of_lt_of_le (hT y hy) (by omega)
  obtain ⟨T, hT⟩ := bound sched
  exact TameRun.hazAll ht hT (HazAllD.initial N T cfg progs) (fun _ => rfl)

def tame2B (N : Nat) (st : State) (t : Nat) : Bool :=
  match (st.th t).op, (st.th t).prog with
  | .idle, (_, o) :: _ =>
    decide (o.below N) && (match o with | .mk c _ => (st.sh.cells c).isNone | _ => true)
  | _, _ => true

theorem tame2_of_B {N : Nat} {st : State} {t : Nat} (h : tame2B N st t = true) : Tame2 N st t := by
  intro hidle txt o rest hp
  simp only [tame2B, hidle, hp, Bool.and_eq_true, decide_eq_true_eq] at h
  refine ⟨h.1, fun c x e => ?_⟩
  subst e
  simpa using h.2

def tameRun2B (N T : Nat) : State → List (Nat × Bool) → Bool
  | _, [] => true
  | st, (t, b) :: rest => decide (t < T) && tame2B N st t && tameRun2B N T (microStep st t b).1 rest

theorem tameRun2_of_B {N T : Nat} {st : State} {sched : List (Nat × Bool)} (h : tameRun2B N T st sched = true) :
    TameRun2 N T st sched := by
  induction sched generalizing st with
  | nil => trivial
  | cons x rest ih =>
    obtain ⟨t, b⟩ := x
    simp only [tameRun2B, Bool.and_eq_true, decide_eq_true_eq] at h
    exact ⟨h.1.1, tame2_of_B h.1.2, ih h.2⟩

def hazExD : State := State.initial {} (fun t =>
  if t = 0 then [("new h0 5", .new 0 5), ("mk c0 h0", .mk 0 0), ("load c0 g0", .load 0 0)]
  else if t = 1 then [("dropc c0", .dropc 0)] else [])
def hazSchedD : List (Nat × Bool) := List.replicate 12 (0, false) ++ List.replicate 1 (1, false)

/-- non-vacuity: after thread 0's load, thread 1 begins to drop the container: thread 0 rests with
    a borrowed guard of value 1, the container is taken, thread 1 is at the start of its walk -/
example : TameRun2 4 2 hazExD hazSchedD ∧ ((run hazExD hazSchedD).th 0).op = .idle ∧
    ((run hazExD hazSchedD).th 0).loc.node = some 0 ∧ ((run hazExD hazSchedD).sh.nodes 0).fast 0 = .ptr 1 ∧
    (run hazExD hazSchedD).ctaken 0 = true ∧ (run hazExD hazSchedD).sh.fault = none ∧
    ((run hazExD hazSchedD).th 1).op.walkC? = some (1, .start) :=
  ⟨tameRun2_of_B (by decide +kernel), by decide +kernel⟩

end M
