import ArcSwapModel.Inv.Ctl

/-!
# What a step does to the debt slots

A step leaves every debt slot of every node as it was or clears it (`Debt::pay`), with two
exceptions: the owner of a node swaps a pointer into a fast slot (`fast::get_debt`, `LP.pswap`) or into
the helping slot (`helping::confirm`, `LP.f4`).  `SlotsStep` says so for every sub-machine and for
`microStep`; the invariants about slots (`HoldInv`, `HHoldInv`, `ProbeInv`, the hazard invariants)
start from it.
-/

namespace M
open Consts

def Node.slot (nd : Node) : Option Nat → Val
  | some i => nd.fast i
  | none => nd.hslot

/-- the load `lp` of a thread with locals `l` is about to swap `p` into slot `k` of the thread's node `n`:
    the swap of `fast::get_debt` or of `helping::confirm` -/
def Fills (l : Locals) : Option LP → Nat → Option Nat → Nat → Prop
  | some (.pswap q i), n, some j, p => l.node = some n ∧ j = i ∧ p = q
  | some (.f4 _ cand), n, none, p => l.node = some n ∧ p = cand
  | _, _, _, _ => False

theorem Fills.fast {l : Locals} {lp : Option LP} {n i p : Nat} (h : Fills l lp n (some i) p) :
    l.node = some n ∧ lp = some (.pswap p i) := by
  cases lp with
  | none => exact h.elim
  | some ld => cases ld <;> first | exact h.elim | (obtain ⟨hn, rfl, rfl⟩ := h; exact ⟨hn, rfl⟩)

def SlotsStep (s s' : Shared) (who : Nat → Option Nat → Nat → Prop) : Prop :=
  ∀ n k, (s'.nodes n).slot k = (s.nodes n).slot k ∨ (s'.nodes n).slot k = .none ∨
    ∃ p, (s'.nodes n).slot k = .ptr p ∧ who n k p

section
variable {s s' x : Shared} {who : Nat → Option Nat → Nat → Prop}

theorem SlotsStep.same (h : ∀ n, (s'.nodes n).slot = (s.nodes n).slot) : SlotsStep s s' who :=
  fun n k => Or.inl (congrFun (h n) k)

theorem SlotsStep.of_nodes (h : s'.nodes = x.nodes) (hx : SlotsStep s x who) : SlotsStep s s' who := by
  unfold SlotsStep; rw [h]; exact hx

theorem SlotsStep.nodes (h : s'.nodes = s.nodes) : SlotsStep s s' who := .same fun n => by rw [h]

theorem SlotsStep.setNode (n0 : Nat) (f : Node → Node)
    (h : ∀ k, (f (s.nodes n0)).slot k = (s.nodes n0).slot k ∨ (f (s.nodes n0)).slot k = .none ∨
      ∃ p, (f (s.nodes n0)).slot k = .ptr p ∧ who n0 k p) : SlotsStep s (s.setNode n0 f) who := by
  intro n k
  rw [setNode_nodes]; split
  · rename_i e; subst e; exact h k
  · exact Or.inl rfl

theorem SlotsStep.clearFast (n0 j : Nat) :
    SlotsStep s (s.setNode n0 fun nd => { nd with fast := upd nd.fast j .none }) who :=
  .setNode n0 _ fun
    | none => Or.inl rfl
    | some i => if h : i = j then Or.inr (Or.inl (by subst h; exact upd_same ..)) else Or.inl (upd_other _ _ _ _ h)

theorem SlotsStep.clearH (n0 : Nat) : SlotsStep s (s.setNode n0 fun nd => { nd with hslot := .none }) who :=
  .setNode n0 _ fun
    | none => Or.inr (Or.inl rfl)
    | some _ => Or.inl rfl

end

/-- closes `((…).nodes m).slot = (s.nodes m).slot` where the step writes no node, or a field that is not a slot -/
macro "same_slots" : tactic =>
  `(tactic| first
    | rfl
    | (simp only [setFault_nodes, dbgInUse_nodes, incObj_nodes, decObj_nodes]
       first | done | exact setNode_proj Node.slot _ _ _ _ fun _ => rfl)
    | exact setNode_proj Node.slot _ _ _ _ fun _ => rfl)

theorem Beyond.slot {s : Shared} (hb : Beyond s) : ({ spaceOffer := s.nNodes } : Node).slot = (s.nodes s.nNodes).slot :=
  funext fun
    | none => (hb _ (Nat.le_refl _)).2.symm
    | some i => ((hb _ (Nat.le_refl _)).1 i).symm

theorem stepNG_sameSlots (s : Shared) (b : Bool) (ng : NG) (hb : Beyond s) {who : Nat → Option Nat → Nat → Prop} :
    SlotsStep s (stepNG s b ng).1 who :=
  .same (stepNG_proj Node.slot s b ng (fun _ _ => rfl) (fun _ _ => rfl) hb.slot)

theorem stepCD_slots (s : Shared) (cd : CD) {who : Nat → Option Nat → Nat → Prop} : SlotsStep s (stepCD s cd).1 who :=
  .same (stepCD_proj Node.slot s cd (fun _ _ => rfl) (fun _ _ => rfl))

theorem stepGD_slots (s : Shared) (gd : GD) {who : Nat → Option Nat → Nat → Prop} : SlotsStep s (stepGD s gd).1 who := by
  cases gd with
  | pay p n0 i0 => simp only [stepGD]; split; exact .clearFast n0 i0; exact .nodes rfl
  | dec p => exact .nodes (decObj_nodes s p)
  | done => exact .nodes rfl

theorem stepGI_slots (s : Shared) (gi : GI) {who : Nat → Option Nat → Nat → Prop} : SlotsStep s (stepGI s gi).1 who := by
  cases gi with
  | inc p n0 i0 => exact .nodes (incObj_nodes s p)
  | pay p n0 i0 => simp only [stepGI]; split; exact .clearFast n0 i0; exact .nodes rfl
  | dec p => exact .nodes (decObj_nodes s p)
  | done => exact .nodes rfl

theorem stepLP_slots (cfg : Cfg) (c : Nat) (s : Shared) (l : Locals) (b : Bool) (lp : LP)
    (hb : Beyond s) (hset : lp.early = false → l.node.isSome = true) :
    SlotsStep s (stepLP cfg c s l b lp).1 (Fills l (some lp)) := by
  cases lp with
  | get ng => rw [stepLP_get]; exact stepNG_sameSlots s b ng hb
  | reget ng => rw [stepLP_reget]; exact stepNG_sameSlots s b ng hb
  | cool cd => rw [stepLP_cool]; exact stepCD_slots s cd
  | pswap p idx =>
    obtain ⟨n0, hn0⟩ := Option.isSome_iff_exists.mp (hset rfl)
    simp only [stepLP, hn0, Option.getD_some]
    exact .of_nodes (ite_setFault_nodes ..) (.setNode n0 _ fun
      | none => Or.inl rfl
      | some i =>
        if h : i = idx then by subst h; exact Or.inr (Or.inr ⟨p, upd_same .., hn0, rfl, rfl⟩)
        else Or.inl (upd_other _ _ _ _ h))
  | a4 p idx => simp only [stepLP]; split; exact .clearFast _ _; exact .nodes rfl
  | f4 g cand =>
    obtain ⟨n0, hn0⟩ := Option.isSome_iff_exists.mp (hset rfl)
    simp only [stepLP, hn0, Option.getD_some]
    exact .of_nodes (ite_setFault_nodes ..) (.setNode n0 _ fun
      | none => Or.inr (Or.inr ⟨cand, rfl, hn0, rfl⟩)
      | some _ => Or.inl rfl)
  | fokPay cand => simp only [stepLP]; split; exact .clearH _; exact .nodes rfl
  | frPay cand r => simp only [stepLP]; split; exact .clearH _; exact .nodes rfl
  | _ =>
    refine .same fun m => ?_
    simp only [stepLP] <;> (repeat' split) <;> same_slots

theorem stepPP_slots (cfg : Cfg) (p c : Nat) (s : Shared) (l : Locals) (b : Bool) (pp : PP)
    (hb : Beyond s) (hk : pp.okN s l) :
    SlotsStep s (stepPP cfg p c s l b pp).1 (Fills l pp.lp?) := by
  cases pp with
  | get ng => rw [stepPP_get]; exact stepNG_sameSlots s b ng hb
  | hload x ld => rw [stepPP_hload]; exact stepLP_slots cfg c s l b ld hb hk.2.1
  | hinto x r gi => rw [stepPP_hinto]; exact stepGI_slots s gi
  | slot n0 j =>
    simp only [stepPP]; (repeat' split) <;> first | exact .clearFast n0 j | exact .clearH n0 | exact .nodes rfl
  | _ =>
    refine .same fun m => ?_
    simp only [stepPP] <;> (repeat' split) <;> same_slots

theorem stepCP_slots (cfg : Cfg) (c cur new : Nat) (s : Shared) (l : Locals) (b : Bool) (cp : CP)
    (hb : Beyond s) (hk : cp.okN s l) :
    SlotsStep s (stepCP cfg c cur new s l b cp).1 (Fills l cp.lp?) := by
  cases cp with
  | load ld => rw [stepCP_load]; exact stepLP_slots cfg c s l b ld hb hk.2.1
  | pay old pp => rw [stepCP_pay]; exact stepPP_slots cfg old.ptr c s l b pp hb hk
  | dropOld gd => rw [stepCP_dropOld]; exact stepGD_slots s gd
  | _ =>
    refine .same fun m => ?_
    simp only [stepCP] <;> (repeat' split) <;> same_slots

theorem stepRP_slots (cfg : Cfg) (c : Nat) (s : Shared) (l : Locals) (b : Bool) (tries : Nat) (rp : RP)
    (hb : Beyond s) (hk : rp.okN s l) :
    SlotsStep s (stepRP cfg c s l b tries rp).1 (Fills l rp.lp?) := by
  cases rp with
  | load ld => rw [stepRP_load]; exact stepLP_slots cfg c s l b ld hb hk.2.1
  | cas cur a cp => rw [stepRP_cas]; exact stepCP_slots cfg c cur.ptr a s l b cp hb hk
  | intoPrev cur prev gi => rw [stepRP_intoPrev]; exact stepGI_slots s gi
  | dropCur res gd => rw [stepRP_dropCur]; exact stepGD_slots s gd
  | dropCurLoop prev gd => rw [stepRP_dropCurLoop]; exact stepGD_slots s gd
  | attempt cur => exact .same fun m => by simp only [stepRP, alloc]; split <;> simp only [setFault_nodes]
  | done r => exact .nodes rfl

theorem OpSt.core_slots (cfg : Cfg) (s : Shared) (l : Locals) (b : Bool) (op : OpSt) (hb : Beyond s) (hk : op.okN s l) :
    SlotsStep s (op.core cfg s l b) (Fills l op.lp?) := by
  cases op with
  | load c g ld => exact stepLP_slots cfg c s l b ld hb hk.2.1
  | loadFull c x ld => exact stepLP_slots cfg c s l b ld hb hk.2.1
  | swapPay c out old isStore pp => exact stepPP_slots cfg old c s l b pp hb hk
  | cinto c x p pp => exact stepPP_slots cfg p c s l b pp hb hk
  | dropc c p pp => exact stepPP_slots cfg p c s l b pp hb hk
  | cas c cur keep curPtr new g cp => exact stepCP_slots cfg c curPtr new s l b cp hb hk
  | rcu c out tries rp => exact stepRP_slots cfg c s l b tries rp hb hk
  | loadFullInto c x r gi => exact stepGI_slots s gi
  | ginto x p gi => exact stepGI_slots s gi
  | dropg gd => exact stepGD_slots s gd
  | exitCool cd => exact stepCD_slots s cd
  | cloneh x y a => exact .nodes (incObj_nodes s a)
  | droph a => exact .nodes (decObj_nodes s a)
  | swapDrop c a => exact .nodes (decObj_nodes s a)
  | dropcDec c a => exact .nodes (decObj_nodes s a)
  | _ => exact .nodes rfl

theorem microStep_slots (st : State) (t : Nat) (b : Bool) (hb : Beyond st.sh)
    (hk : (st.th t).op.okN st.sh (st.th t).loc) :
    SlotsStep st.sh (microStep st t b).1.sh (Fills (st.th t).loc (st.th t).op.lp?) := by
  by_cases hi : (st.th t).op = .idle
  · refine .nodes ?_
    simp only [microStep, hi]; split
    · rfl
    · exact beginOp_nodes ..
  · exact .of_nodes (microStep_core st t b hi).nodes (OpSt.core_slots _ _ _ _ _ hb hk)

def AtSwap (l : Locals) (lp : Option LP) (n i : Nat) : Prop := l.node = some n ∧ ∃ p, lp = some (.pswap p i)

def SlotStep (s s' : Shared) (who : Nat → Nat → Prop) : Prop :=
  ∀ n i, (s'.nodes n).fast i = (s.nodes n).fast i ∨ (s'.nodes n).fast i = .none ∨ who n i

theorem microStep_slot (st : State) (t : Nat) (b : Bool) (hb : Beyond st.sh)
    (hk : (st.th t).op.okN st.sh (st.th t).loc) :
    SlotStep st.sh (microStep st t b).1.sh (AtSwap (st.th t).loc (st.th t).op.lp?) := fun n i =>
  (microStep_slots st t b hb hk n (some i)).imp_right <| Or.imp_right fun ⟨p, _, h⟩ => ⟨h.fast.1, p, h.fast.2⟩

end M
