import ArcSwapModel.Inv.Named

/-!
# Writers and where their walk is

A thread that has taken a value out of a container (`swap`/`store`, a successful exchange of
`compare_and_swap`/`rcu`) walks the debt list for that value before it releases it.  `OpSt.walk?`
gives the value and the program counter of the walk; `PP.pos` the node the walk is at and the first
slot of it not yet attempted.  `OpSt.walkC?` adds the walks of `into_inner` and `Drop` of a container,
which walk the list for the value the container holds before they take it out.

The lemmas about `microStep` here and in the files that follow are facts about `OpSt.next` and
`OpSt.core` (`M/Step.lean`), carried over by `microStep_next` and `microStep_core`; the step of an idle
thread is described by `Begins`.
-/

namespace M
open Consts

/-- the node the walk is at, and the first slot of that node it has not attempted yet
    (slots `0 … slotCnt-1` are the fast slots, `slotCnt` is the helping slot) -/
def PP.pos : PP → Option (Nat × Nat)
  | .res m => some (m, 0)
  | .hDbg0 h | .hDbg1 h | .h1 h | .h2 h | .h3 h | .hres h | .hload h _ | .hinto h _ _ | .h4 h _ | .h5 h _ _
  | .h6 h _ _ _ | .h7 h _ _ _ | .h8 h _ | .hdrop h _ | .hend h | .hrel h => some (h.who, 0)
  | .slot m j => some (m, j)
  | .slotInc m j => some (m, j + 1)
  | .rel m => some (m, slotCnt + 1)
  | _ => none

def CP.walk? : CP → Option (Nat × PP)
  | .pay old pp => some (old.ptr, pp)
  | _ => none
def RP.walk? : RP → Option (Nat × PP)
  | .cas _ _ cp => cp.walk?
  | _ => none
/-- the value a thread has taken out of a container and is walking the list for -/
def OpSt.walk? : OpSt → Option (Nat × PP)
  | .swapPay _ _ old _ pp => some (old, pp)
  | .cas _ _ _ _ _ _ cp => cp.walk?
  | .rcu _ _ _ rp => rp.walk?
  | _ => none

def OpSt.walkC? : OpSt → Option (Nat × PP)
  | .cinto _ _ p pp => some (p, pp)
  | .dropc _ p pp => some (p, pp)
  | op => op.walk?

theorem OpSt.walkC_of_walk {op : OpSt} {x : Nat × PP} (h : op.walk? = some x) : op.walkC? = some x := by
  cases op <;> first | exact h | cases h

/-! `compare_and_swap` exchanges the value it has just seen -/

def CP.cxok (cur : Nat) : CP → Prop
  | .cx old => old.ptr = cur
  | _ => True
def RP.cxok : RP → Prop
  | .cas cur _ cp => cp.cxok cur.ptr
  | _ => True
def OpSt.cxok : OpSt → Prop
  | .cas _ _ _ curPtr _ _ cp => cp.cxok curPtr
  | .rcu _ _ _ rp => rp.cxok
  | _ => True

theorem contOk_of {st : State} {c : Nat} (h : ¬ (!((st.sh.cells c).isSome && !st.ctaken c)) = true) :
    st.sh.cells c ≠ none ∧ st.ctaken c = false := by
  cases hc : st.sh.cells c <;> cases ht : st.ctaken c <;> simp [hc, ht] at h ⊢

theorem consOk_of {st : State} {c : Nat}
    (h : ¬ (!((st.sh.cells c).isSome && !st.ctaken c) || decide (st.sh.busy c ≠ 0)) = true) :
    (∃ p, st.sh.cells c = some p) ∧ st.ctaken c = false ∧ st.sh.busy c = 0 := by
  cases hc : st.sh.cells c <;> cases ht : st.ctaken c <;> simp [hc, ht] at h ⊢ <;> exact h

/-- The register rules of the harness at the beginning of operation `o`: what it does to `ctaken`, `busy` and
    the cells, given the operation state `op'` the thread is in afterwards. -/
def Begins (s : Shared) (ct : Nat → Bool) (o : Op) (op' : OpSt) (s' : Shared) (ct' : Nat → Bool) : Prop :=
  (op'.cell? = none ∧ op'.cons = false ∧ ct' = ct ∧ s'.busy = s.busy ∧
      (s'.cells = s.cells ∨ ∃ c x a, o = .mk c x ∧ s'.cells = upd s.cells c (some a))) ∨
  (∃ c, op'.cell? = some c ∧ op'.cons = false ∧ s.cells c ≠ none ∧ ct c = false ∧ (∀ N, o.below N → c < N) ∧
      ct' = ct ∧ s'.cells = s.cells ∧ s'.busy = upd s.busy c (s.busy c + 1)) ∨
  (∃ c p, ((∃ x, o = .cinto c x ∧ op' = .cinto c x p .start) ∨ (o = .dropc c ∧ op' = .dropc c p .start)) ∧
      s.cells c = some p ∧ ct c = false ∧ s.busy c = 0 ∧ (∀ N, o.below N → c < N) ∧
      ct' = upd ct c true ∧ s'.cells = s.cells ∧ s'.busy = s.busy)

theorem beginOp_cases (st : State) (t : Nat) (o : Op) :
    ∃ th', (beginOp st t o).1.th = upd st.th t th' ∧ th'.op.walk? = none ∧ th'.op.cxok ∧
      Begins st.sh st.ctaken o th'.op (beginOp st t o).1.sh (beginOp st t o).1.ctaken := by
  cases o with
  | load c g | loadfull c g | store c g | swap c g out | cas c cur new g | rcu c out =>
    dsimp only [beginOp]
    (repeat' split) <;> refine ⟨_, rfl, rfl, trivial, ?_⟩ <;>
      first
        | exact Or.inl ⟨rfl, rfl, rfl, rfl, Or.inl rfl⟩
        | exact Or.inr (Or.inl ⟨_, rfl, rfl, (contOk_of ‹_›).1, (contOk_of ‹_›).2, fun N hN => hN.1, rfl, rfl, rfl⟩)
  | cinto c x | dropc c =>
    dsimp only [beginOp]
    (repeat' split) <;> refine ⟨_, rfl, rfl, trivial, ?_⟩ <;>
      first
        | exact Or.inl ⟨rfl, rfl, rfl, rfl, Or.inl rfl⟩
        | (obtain ⟨⟨p, hp⟩, h1, h2⟩ := consOk_of ‹_›
           refine Or.inr (Or.inr ⟨_, p, ?_, hp, h1, h2, fun N hN => ?_, rfl, rfl, rfl⟩)
           · rw [hp]; first | exact Or.inl ⟨_, rfl, rfl⟩ | exact Or.inr ⟨rfl, rfl⟩
           · first | exact hN.1 | exact hN)
  | mk c x =>
    dsimp only [beginOp]
    split <;> refine ⟨_, rfl, rfl, trivial, Or.inl ⟨rfl, rfl, rfl, rfl, ?_⟩⟩
    · exact Or.inl rfl
    · exact Or.inr ⟨_, _, _, rfl, rfl⟩
  | gderef g =>
    dsimp only [beginOp]
    (repeat' split) <;>
      exact ⟨_, rfl, rfl, trivial, Or.inl ⟨rfl, rfl, rfl, by first | rfl | exact setFault_busy ..,
        Or.inl (by first | rfl | exact setFault_cells ..)⟩⟩
  | _ =>
    dsimp only [beginOp] <;> (repeat' split) <;> exact ⟨_, rfl, rfl, trivial, Or.inl ⟨rfl, rfl, rfl, rfl, Or.inl rfl⟩⟩

theorem microStep_idle (st : State) (t : Nat) (b : Bool) (hop : (st.th t).op = .idle) :
    ((microStep st t b).1.th t).op.walk? = none ∧ ((microStep st t b).1.th t).op.cxok ∧
      ((((microStep st t b).1.th t).op.cell? = none ∧ ((microStep st t b).1.th t).op.cons = false ∧
          (microStep st t b).1.sh = st.sh ∧ (microStep st t b).1.ctaken = st.ctaken) ∨
        ∃ txt o rest, (st.th t).prog = (txt, o) :: rest ∧
          Begins st.sh st.ctaken o ((microStep st t b).1.th t).op (microStep st t b).1.sh (microStep st t b).1.ctaken) := by
  cases hp : (st.th t).prog with
  | nil =>
    simp only [microStep, hop, hp, upd_same]
    cases (st.th t).loc.node <;> exact ⟨rfl, trivial, Or.inl ⟨rfl, rfl, trivial, trivial⟩⟩
  | cons x rest =>
    have e := microStep_idle_cons st t b hop hp
    obtain ⟨th', e', hw, hx, hb⟩ := beginOp_cases { st with th := upd st.th t { st.th t with prog := rest } } t x.2
    rw [e, e', upd_same]
    exact ⟨hw, hx, Or.inr ⟨x.1, x.2, rest, rfl, hb⟩⟩

theorem PP.dispatch_pos (h : HL) : (PP.dispatch h).pos = some (h.who, 0) := by
  simp only [PP.dispatch]; split <;> rfl

theorem PP.nextSlot_pos (m j : Nat) :
    (PP.nextSlot m j).pos = some (m, j + 1) ∨ (slotCnt ≤ j ∧ (PP.nextSlot m j).pos = some (m, slotCnt + 1)) := by
  simp only [PP.nextSlot]; split
  · exact Or.inl rfl
  · exact Or.inr ⟨by omega, rfl⟩

theorem stepPP_pos_cases (cfg : Cfg) (p c : Nat) (s : Shared) (l : Locals) (b : Bool) (pp : PP) :
    (stepPP cfg p c s l b pp).2.2.1.pos = pp.pos ∨
      (∃ m j, pp = .slot m j ∧ ((stepPP cfg p c s l b pp).2.2.1.pos = some (m, j + 1) ∨
        (slotCnt ≤ j ∧ (stepPP cfg p c s l b pp).2.2.1.pos = some (m, slotCnt + 1)))) ∨
      (∃ m j, pp = .slotInc m j ∧ slotCnt ≤ j ∧ (stepPP cfg p c s l b pp).2.2.1.pos = some (m, slotCnt + 1)) ∨
      (pp = .trav ∧ (stepPP cfg p c s l b pp).2.2.1.pos = s.head.map (·, 0)) ∨
      (∃ m, pp = .rel m ∧ (stepPP cfg p c s l b pp).2.2.1.pos = (s.nodes m).next.map (·, 0)) ∨
      (∃ m, pp = .res m ∧ l.node = none ∧ (stepPP cfg p c s l b pp).2.2.1.pos = none) := by
  cases pp with
  | trav => right; right; right; left; refine ⟨rfl, ?_⟩; simp only [stepPP]; cases s.head <;> rfl
  | rel m =>
    right; right; right; right; left; refine ⟨m, rfl, ?_⟩; simp only [stepPP]; cases (s.nodes m).next <;> rfl
  | res m =>
    simp only [stepPP]
    cases hn : l.node with
    | none => exact Or.inr (Or.inr (Or.inr (Or.inr (Or.inr ⟨m, rfl, rfl, rfl⟩))))
    | some own => exact Or.inl rfl
  | slot m j =>
    right; left
    refine ⟨m, j, rfl, ?_⟩
    simp only [stepPP]
    (repeat' split) <;> first | exact PP.nextSlot_pos m j | exact Or.inl rfl
  | slotInc m j =>
    simp only [stepPP, PP.nextSlot]
    split
    · exact Or.inl rfl
    · exact Or.inr (Or.inr (Or.inl ⟨m, j, rfl, by omega, rfl⟩))
  | hload x ld =>
    left; rw [stepPP_hload]; generalize (stepLP cfg c s l b ld).2.2.1 = ld'
    cases ld' <;> first | rfl | (simp only [PP.afterLoad]; split <;> rfl)
  | hinto x r gi => left; rw [stepPP_hinto]; generalize (stepGI s gi).2.1 = gi'; cases gi' <;> rfl
  | get ng =>
    left; rw [stepPP_get]; generalize (stepNG s b ng).2.1 = ng'
    cases ng' <;> first | rfl | (simp only [PP.afterGet]; split <;> rfl)
  | _ =>
    left
    simp only [stepPP] <;> (repeat' split) <;> first | rfl | exact PP.dispatch_pos _

theorem stepPP_pos (cfg : Cfg) (p c : Nat) (s : Shared) (l : Locals) (b : Bool) (pp : PP) (m' j' : Nat)
    (h : (stepPP cfg p c s l b pp).2.2.1.pos = some (m', j')) :
    (∃ j, pp.pos = some (m', j) ∧ (j' = j ∨ (pp = .slot m' j ∧ (j' = j + 1 ∨ slotCnt ≤ j)) ∨ (∃ k, pp = .slotInc m' k ∧ slotCnt ≤ k))) ∨
      (pp = .trav ∧ s.head = some m' ∧ j' = 0) ∨
      (∃ m, pp = .rel m ∧ (s.nodes m).next = some m' ∧ j' = 0) := by
  rcases stepPP_pos_cases cfg p c s l b pp with e | ⟨m, j, rfl, e | ⟨hj, e⟩⟩ | ⟨m, j, rfl, hj, e⟩ | ⟨rfl, e⟩ |
      ⟨m, rfl, e⟩ | ⟨m, rfl, _, e⟩ <;> rw [e] at h
  · exact Or.inl ⟨j', h, Or.inl rfl⟩
  · cases h; exact Or.inl ⟨j, rfl, Or.inr (Or.inl ⟨rfl, Or.inl rfl⟩)⟩
  · cases h; exact Or.inl ⟨j, rfl, Or.inr (Or.inl ⟨rfl, Or.inr hj⟩)⟩
  · cases h; exact Or.inl ⟨j + 1, rfl, Or.inr (Or.inr ⟨j, rfl, hj⟩)⟩
  · cases hh : s.head <;> rw [hh] at h <;> cases h; exact Or.inr (Or.inl ⟨rfl, rfl, rfl⟩)
  · cases hh : (s.nodes m).next <;> rw [hh] at h <;> cases h; exact Or.inr (Or.inr ⟨m, rfl, hh, rfl⟩)
  · cases h

theorem stepPP_pos_some (cfg : Cfg) (p c : Nat) (s : Shared) (l : Locals) (b : Bool) (pp : PP) (m j : Nat)
    (h : pp.pos = some (m, j)) (hnode : l.node.isSome = true) :
    (stepPP cfg p c s l b pp).2.2.1.pos.isSome = true ∨ (pp = .rel m ∧ (s.nodes m).next = none) := by
  rcases stepPP_pos_cases cfg p c s l b pp with e | ⟨_, _, _, e | ⟨_, e⟩⟩ | ⟨_, _, _, _, e⟩ | ⟨rfl, _⟩ |
      ⟨m0, rfl, e⟩ | ⟨_, _, hn, _⟩
  · exact Or.inl (by rw [e, h]; rfl)
  · exact Or.inl (by rw [e]; rfl)
  · exact Or.inl (by rw [e]; rfl)
  · exact Or.inl (by rw [e]; rfl)
  · cases h
  · cases h
    cases hq : (s.nodes m).next with
    | none => exact Or.inr ⟨rfl, rfl⟩
    | some x => exact Or.inl (by rw [e, hq]; rfl)
  · rw [hn] at hnode; cases hnode

theorem CP.afterPay_walk (old : Guard) (pp : PP) :
    (CP.afterPay old pp).walk? = if pp = .done then none else some (old.ptr, pp) := by
  cases pp <;> first | rfl | (simp only [CP.afterPay]; split <;> rfl)

theorem RP.afterCas_walk (cur : Guard) (a : Nat) (cp : CP) : (RP.afterCas cur a cp).walk? = cp.walk? := by
  cases cp <;> first | rfl | (simp only [RP.afterCas]; (repeat' split) <;> rfl)

theorem stepCP_walk (cfg : Cfg) (c cur new : Nat) (s : Shared) (l : Locals) (b : Bool) (cp : CP) (a : Nat) (pp' : PP)
    (h : (stepCP cfg c cur new s l b cp).2.2.1.walk? = some (a, pp')) :
    (∃ pp, cp.walk? = some (a, pp) ∧ pp' = (stepPP cfg a c s l b pp).2.2.1 ∧
        (stepCP cfg c cur new s l b cp).1 = (stepPP cfg a c s l b pp).1 ∧
        (stepCP cfg c cur new s l b cp).2.1 = (stepPP cfg a c s l b pp).2.1) ∨
      (pp' = .start ∧ cp.walk? = none) := by
  cases cp with
  | pay old pp =>
    rw [stepCP_pay] at h ⊢
    rw [CP.afterPay_walk] at h
    split at h <;> cases h
    exact Or.inl ⟨pp, rfl, rfl, rfl, rfl⟩
  | cx old =>
    simp only [stepCP] at h
    (repeat' split at h) <;> cases h
    exact Or.inr ⟨rfl, rfl⟩
  | _ => simp only [stepCP] at h <;> (repeat' split at h) <;> cases h

theorem stepRP_walk (cfg : Cfg) (c : Nat) (s : Shared) (l : Locals) (b : Bool) (tries : Nat) (rp : RP) (a : Nat) (pp' : PP)
    (h : (stepRP cfg c s l b tries rp).2.2.1.walk? = some (a, pp')) :
    (∃ pp, rp.walk? = some (a, pp) ∧ pp' = (stepPP cfg a c s l b pp).2.2.1 ∧
        (stepRP cfg c s l b tries rp).1 = (stepPP cfg a c s l b pp).1 ∧
        (stepRP cfg c s l b tries rp).2.1 = (stepPP cfg a c s l b pp).2.1) ∨
      (pp' = .start ∧ rp.walk? = none) := by
  cases rp with
  | cas cur x cp =>
    rw [stepRP_cas] at h ⊢
    rw [RP.afterCas_walk] at h
    exact stepCP_walk cfg c cur.ptr x s l b cp a pp' h
  | _ => simp only [stepRP] at h <;> (repeat' split at h) <;> cases h

theorem OpSt.next_walk (cfg : Cfg) (s : Shared) (l : Locals) (b : Bool) (op : OpSt) (a : Nat) (pp' : PP)
    (h : (op.next cfg s l b).1.walk? = some (a, pp')) :
    (∃ pp c, op.walk? = some (a, pp) ∧ pp' = (stepPP cfg a c s l b pp).2.2.1 ∧
        op.core cfg s l b = (stepPP cfg a c s l b pp).1 ∧ (op.next cfg s l b).2 = (stepPP cfg a c s l b pp).2.1) ∨
      (pp' = .start ∧ op.walk? = none) := by
  cases op with
  | swapSw c a0 out isStore =>
    simp only [OpSt.next] at h
    split at h <;> cases h
    exact Or.inr ⟨rfl, rfl⟩
  | swapPay c out old isStore pp =>
    simp only [OpSt.next] at h
    (repeat' split at h) <;> cases h
    exact Or.inl ⟨pp, c, rfl, rfl, rfl, rfl⟩
  | cas c cur keep curPtr new g cp =>
    have e : (OpSt.next cfg s l b (.cas c cur keep curPtr new g cp)).1.walk? =
        (stepCP cfg c curPtr new s l b cp).2.2.1.walk? := by
      simp only [OpSt.next]; generalize (stepCP cfg c curPtr new s l b cp).2.2.1 = x; cases x <;> rfl
    exact (stepCP_walk cfg c curPtr new s l b cp a pp' (e ▸ h)).imp (fun ⟨pp, h1⟩ => ⟨pp, c, h1⟩) id
  | rcu c out tries rp =>
    have e : (OpSt.next cfg s l b (.rcu c out tries rp)).1.walk? = (stepRP cfg c s l b tries rp).2.2.1.walk? := by
      simp only [OpSt.next]; generalize (stepRP cfg c s l b tries rp).2.2.1 = x; cases x <;> rfl
    exact (stepRP_walk cfg c s l b tries rp a pp' (e ▸ h)).imp (fun ⟨pp, h1⟩ => ⟨pp, c, h1⟩) id
  | _ => simp only [OpSt.next] at h <;> (repeat' split at h) <;> cases h

theorem microStep_walk (st : State) (t : Nat) (b : Bool) (a : Nat) (pp' : PP)
    (h : ((microStep st t b).1.th t).op.walk? = some (a, pp')) :
    (∃ pp c, (st.th t).op.walk? = some (a, pp) ∧ pp' = (stepPP st.cfg a c st.sh (st.th t).loc b pp).2.2.1 ∧
        (microStep st t b).1.sh.nodes = (stepPP st.cfg a c st.sh (st.th t).loc b pp).1.nodes ∧
        (microStep st t b).1.sh.head = (stepPP st.cfg a c st.sh (st.th t).loc b pp).1.head ∧
        ((microStep st t b).1.th t).loc = (stepPP st.cfg a c st.sh (st.th t).loc b pp).2.1) ∨
      (pp' = .start ∧ (st.th t).op.walk? = none) := by
  by_cases hop : (st.th t).op = .idle
  · rw [(microStep_idle st t b hop).1] at h; cases h
  · have hc := microStep_core st t b hop
    obtain ⟨ho, hl, _⟩ := microStep_next st t b hop
    rw [ho] at h
    rw [hl, hc.nodes, hc.head]
    exact (OpSt.next_walk _ _ _ _ _ a pp' h).imp
      (fun ⟨pp, c, h1, h2, h3, h4⟩ => ⟨pp, c, h1, h2, congrArg _ h3, congrArg _ h3, h4⟩) id

end M
