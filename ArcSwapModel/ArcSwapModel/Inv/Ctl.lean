import ArcSwapModel.Inv.AcctFinal

/-!
# The control word: who may hold it non-idle

`control` of a node is written at exactly three places: its owner publishes a generation at the
start of a fallback transaction (`f2`), swaps `IDLE` back at the end (`f5`), and a helper
compare-exchanges a *generation* into an envelope (`h7`).  Hence, in every fault-free reachable
state (`CtlInv`):

* a control word that is not idle belongs to a thread inside its fallback window (between `f2` and
  `f5`) on that very node, and holds that thread's generation or an envelope;
* conversely a thread inside its window finds its generation or an envelope there.

From this the debug assertions of the helping protocol that look at `control` can never fire
(`Props/C13`): `get_debt` finds `IDLE`, `help` finds its own control `IDLE`, and `confirm` finds
its generation or a replacement.
-/

namespace M
open Consts
-- unfolding these evaluates a lookup in the generated source tree; no proof here needs their values
attribute [local irreducible] Consts.slotCnt Consts.genStep Consts.nodeUsed Consts.nodeUnused Consts.nodeCooldown Consts.nodeChecking

/-- the generation, when the load is inside its control window -/
def LP.win : LP → Option Nat
  | .f3 g | .chDbg g _ | .f4 g _ | .f5 g _ => some g
  | _ => none

def PP.win : PP → Option Nat
  | .hload _ ld => ld.win
  | _ => none

def CP.win : CP → Option Nat
  | .load ld => ld.win
  | .pay _ pp => pp.win
  | _ => none

def RP.win : RP → Option Nat
  | .load ld => ld.win
  | .cas _ _ cp => cp.win
  | _ => none

def OpSt.win : OpSt → Option Nat
  | .load _ _ ld | .loadFull _ _ ld => ld.win
  | .swapPay _ _ _ _ pp | .cinto _ _ _ pp | .dropc _ _ pp => pp.win
  | .cas _ _ _ _ _ _ cp => cp.win
  | .rcu _ _ _ rp => rp.win
  | _ => none

/-- what one step does to the control words and to the stepping thread's (node, window) -/
inductive CtlStep (s : Shared) (n0 : Option Nat) (w : Option Nat) (s' : Shared) (n0' : Option Nat) (w' : Option Nat) : Prop
  | same : (∀ n, (s'.nodes n).control = (s.nodes n).control) → w' = w → (w ≠ none → n0' = n0) → CtlStep s n0 w s' n0' w'
  | opens (n g : Nat) : n0 = some n → n0' = some n → w = none → w' = some g →
      (∀ m, (s'.nodes m).control = if m = n then .gen g else (s.nodes m).control) → CtlStep s n0 w s' n0' w'
  | closes (n g : Nat) : n0 = some n → w = some g → w' = none → (s'.nodes n).control = .idle →
      (∀ m, m ≠ n → (s'.nodes m).control = (s.nodes m).control) → CtlStep s n0 w s' n0' w'
  | hands (who g m : Nat) : (s.nodes who).control = .gen g → w = none → w' = none →
      (∀ x, (s'.nodes x).control = if x = who then .env m else (s.nodes x).control) → CtlStep s n0 w s' n0' w'

theorem CtlStep.frame {s s1 s' : Shared} {n0 n0' : Option Nat} {w w' : Option Nat}
    (h : CtlStep s n0 w s1 n0' w') (hn : s'.nodes = s1.nodes) : CtlStep s n0 w s' n0' w' := by
  cases h with
  | same h1 h2 h3 => exact .same (fun n => by rw [hn]; exact h1 n) h2 h3
  | opens n g a b c d e => exact .opens n g a b c d (fun m => by rw [hn]; exact e m)
  | closes n g a b c d e => exact .closes n g a b c (by rw [hn]; exact d) (fun m hm => by rw [hn]; exact e m hm)
  | hands who g m a b c d => exact .hands who g m a b c (fun x => by rw [hn]; exact d x)

theorem ctl_setNode (s : Shared) (n : Nat) (f : Node → Node) (hf : ∀ nd, (f nd).control = nd.control) (m : Nat) :
    ((s.setNode n f).nodes m).control = (s.nodes m).control := setNode_proj (·.control) s n m f hf

def CtlBeyond (s : Shared) : Prop := ∀ n, s.nNodes ≤ n → (s.nodes n).control = .idle

theorem CtlBeyond.of_ctl {s s' : Shared} (h : CtlBeyond s) (hc : ∀ n, (s'.nodes n).control = (s.nodes n).control)
    (hn : s.nNodes ≤ s'.nNodes) : CtlBeyond s' := fun n hk => by rw [hc n]; exact h n (by omega)

/-- `control` of every node is what it was: the update touched other fields only -/
macro "ctl_frame" : tactic =>
  `(tactic| simp only [ctl_setNode, implies_true, setFault_nodes, dbgInUse_nodes, ite_setFault_nodes, incObj_nodes, decObj_nodes,
      Shared.writeCell, alloc])

theorem stepNG_ctl (s : Shared) (b : Bool) (ng : NG) (hc : CtlBeyond s) (m : Nat) :
    ((stepNG s b ng).1.nodes m).control = (s.nodes m).control :=
  stepNG_proj (·.control) s b ng (fun _ _ => rfl) (fun _ _ => rfl) (hc _ (Nat.le_refl _)).symm m

theorem stepNG_ctlBeyond (s : Shared) (b : Bool) (ng : NG) (hc : CtlBeyond s) : CtlBeyond (stepNG s b ng).1 :=
  hc.of_ctl (stepNG_ctl s b ng hc) (stepNG_upds s b ng).nNodes_le

theorem stepCD_ctl (s : Shared) (cd : CD) (m : Nat) : ((stepCD s cd).1.nodes m).control = (s.nodes m).control :=
  stepCD_proj (·.control) s cd (fun _ _ => rfl) (fun _ _ => rfl) m

theorem stepGD_ctl (s : Shared) (gd : GD) (m : Nat) : ((stepGD s gd).1.nodes m).control = (s.nodes m).control :=
  stepGD_proj (·.control) s gd (fun _ _ => rfl) m

theorem stepGI_ctl (s : Shared) (gi : GI) (m : Nat) : ((stepGI s gi).1.nodes m).control = (s.nodes m).control :=
  stepGI_proj (·.control) s gi (fun _ _ => rfl) m

theorem LP.afterGet_win (cfg : Cfg) (ng : NG) : (LP.afterGet cfg ng).win = none := by
  cases ng <;> simp only [LP.afterGet] <;> (try split) <;> rfl
theorem LP.afterReget_win (ng : NG) : (LP.afterReget ng).win = none := by cases ng <;> rfl
theorem LP.afterCool_win (cd : CD) : (LP.afterCool cd).win = none := by cases cd <;> rfl

theorem stepLP_ctl (cfg : Cfg) (c : Nat) (s : Shared) (l : Locals) (b : Bool) (lp : LP)
    (hc : CtlBeyond s) (hk : lp.okN s l) (hf : (stepLP cfg c s l b lp).1.fault = none) :
    CtlStep s l.node lp.win (stepLP cfg c s l b lp).1 (stepLP cfg c s l b lp).2.1.node (stepLP cfg c s l b lp).2.2.1.win := by
  cases lp with
  | get ng => rw [stepLP_get]; exact .same (stepNG_ctl s b ng hc) (LP.afterGet_win _ _) (fun h => absurd rfl h)
  | reget ng => rw [stepLP_reget]; exact .same (stepNG_ctl s b ng hc) (LP.afterReget_win _) (fun h => absurd rfl h)
  | cool cd => rw [stepLP_cool]; exact .same (stepCD_ctl s cd) (LP.afterCool_win _) (fun _ => rfl)
  | f2 g =>
    obtain ⟨n, hn⟩ := Option.isSome_iff_exists.mp (hk.2.1 rfl)
    simp only [stepLP, hn, Option.getD_some]
    refine .opens n g rfl rfl rfl rfl (fun m => ?_)
    rw [ite_setFault_nodes, setNode_nodes]; split <;> rfl
  | f3 g =>
    simp only [stepLP] at hf ⊢; split
    · exact .same (fun _ => rfl) rfl (fun _ => rfl)
    · rename_i hcell; simp only [hcell] at hf; exact absurd hf (setFault_ne_none _ _)
  | chDbg g cand =>
    simp only [stepLP] at hf ⊢; split
    · rename_i hl; simp only [hl] at hf; exact absurd hf (setFault_ne_none _ _)
    · exact .same (fun _ => by rw [dbgInUse_nodes]) rfl (fun _ => rfl)
  | f5 g cand =>
    obtain ⟨n, hn⟩ := Option.isSome_iff_exists.mp (hk.2.1 rfl)
    simp only [stepLP, hn, Option.getD_some] at hf ⊢
    have closes : ∀ w', w' = none →
        CtlStep s (some n) (some g) (s.setNode n fun nd => { nd with control := .idle }) l.node w' :=
      fun w' hw => .closes n g rfl rfl hw (by rw [setNode_nodes_same]) (fun m hm => by rw [setNode_nodes_other _ _ _ _ hm])
    by_cases hg : (s.nodes n).control = .gen g
    · simp only [hg, ↓reduceIte]; split <;> exact closes _ rfl
    · simp only [hg, ↓reduceIte] at hf ⊢
      cases hx : (s.nodes n).control with
      | env j => exact closes _ rfl
      | idle => simp only [hx] at hf; exact absurd hf (setFault_ne_none _ _)
      | gen g' => simp only [hx] at hf; exact absurd hf (setFault_ne_none _ _)
  | _ =>
    -- the other states write other fields, keep the thread's node and stay inside or outside the window
    simp only [stepLP] <;> (repeat' split) <;>
      exact .same (fun _ => by ctl_frame) rfl (fun _ => rfl)

/-- while a helper is past the dispatch, the control word it remembers is a generation -/
def PP.hwf : PP → Prop
  | .h2 h | .h3 h | .hres h | .hload h _ | .hinto h _ _ | .h4 h _ | .h5 h _ _ | .h6 h _ _ _ | .h7 h _ _ _ =>
      ∃ g, h.ctl = .gen g
  | _ => True

theorem PP.hwf_dispatch (h : HL) : (PP.dispatch h).hwf := by
  unfold PP.dispatch
  split
  · rename_i g hg; exact ⟨g, hg⟩
  · trivial

theorem PP.win_dispatch (h : HL) : (PP.dispatch h).win = none := by
  unfold PP.dispatch; split <;> rfl

theorem PP.win_nextSlot (n j : Nat) : (PP.nextSlot n j).win = none := by
  unfold PP.nextSlot; split <;> rfl

theorem PP.hwf_nextSlot (n j : Nat) : (PP.nextSlot n j).hwf := by
  unfold PP.nextSlot; split <;> trivial

theorem PP.afterGet_win (p : Nat) (ng : NG) : (PP.afterGet p ng).win = none := by
  cases ng <;> simp only [PP.afterGet] <;> (try split) <;> rfl
theorem PP.afterGet_hwf (p : Nat) (ng : NG) : (PP.afterGet p ng).hwf := by
  cases ng <;> simp only [PP.afterGet] <;> (try split) <;> trivial
theorem PP.afterLoad_win (h : HL) (ld : LP) : (PP.afterLoad h ld).win = ld.win := by
  cases ld <;> simp only [PP.afterLoad] <;> (try split) <;> rfl
theorem PP.afterLoad_hwf (h : HL) (ld : LP) (hw : ∃ g, h.ctl = .gen g) : (PP.afterLoad h ld).hwf := by
  cases ld <;> simp only [PP.afterLoad] <;> (try split) <;> exact hw
theorem PP.afterInto_win (h : HL) (r : Nat) (gi : GI) : (PP.afterInto h r gi).win = none := by cases gi <;> rfl
theorem PP.afterInto_hwf (h : HL) (r : Nat) (gi : GI) (hw : ∃ g, h.ctl = .gen g) : (PP.afterInto h r gi).hwf := by
  cases gi <;> exact hw

theorem stepPP_ctl (cfg : Cfg) (p c : Nat) (s : Shared) (l : Locals) (b : Bool) (pp : PP)
    (hc : CtlBeyond s) (hk : pp.okN s l) (hw : pp.hwf) (hf : (stepPP cfg p c s l b pp).1.fault = none) :
    CtlStep s l.node pp.win (stepPP cfg p c s l b pp).1 (stepPP cfg p c s l b pp).2.1.node (stepPP cfg p c s l b pp).2.2.1.win ∧
      (stepPP cfg p c s l b pp).2.2.1.hwf := by
  have plain : ∀ (s' : Shared) (pp' : PP), (∀ n, (s'.nodes n).control = (s.nodes n).control) → pp.win = none →
      pp'.win = none → pp'.hwf → CtlStep s l.node pp.win s' l.node pp'.win ∧ pp'.hwf :=
    fun s' pp' h1 h2 h3 h4 => ⟨.same h1 (by rw [h2, h3]) (fun _ => rfl), h4⟩
  cases pp with
  | get ng =>
    rw [stepPP_get]
    exact ⟨.same (stepNG_ctl s b ng hc) (PP.afterGet_win _ _) (fun h => absurd rfl h), PP.afterGet_hwf _ _⟩
  | hload x ld =>
    rw [stepPP_hload] at hf ⊢; rw [PP.afterLoad_win]
    exact ⟨stepLP_ctl cfg c s l b ld hc hk hf, PP.afterLoad_hwf _ _ hw⟩
  | hinto x r gi =>
    rw [stepPP_hinto]; exact plain _ _ (stepGI_ctl s gi) rfl (PP.afterInto_win _ _ _) (PP.afterInto_hwf _ _ _ hw)
  | res n =>
    simp only [stepPP] at hf ⊢; split
    · rename_i hl; simp only [hl] at hf; exact absurd hf (setFault_ne_none _ _)
    · exact plain _ _ (fun _ => by ctl_frame) rfl rfl trivial
  | h1 x => simp only [stepPP]; exact plain s _ (fun _ => rfl) rfl (PP.win_dispatch _) (PP.hwf_dispatch _)
  | h3 x =>
    simp only [stepPP]; split
    · exact plain s _ (fun _ => rfl) rfl rfl trivial
    · exact plain s _ (fun _ => rfl) rfl (PP.win_dispatch _) (PP.hwf_dispatch _)
  | h7 x r t' m =>
    obtain ⟨g, hg⟩ := hw
    simp only [stepPP]
    split
    · rename_i hx
      refine ⟨.hands x.who g m (by rw [hx, hg]) rfl rfl (fun y => ?_), trivial⟩
      rw [setNode_nodes]; split <;> rfl
    · split
      · exact plain s _ (fun _ => rfl) rfl (PP.win_dispatch _) (PP.hwf_dispatch _)
      · exact plain s _ (fun _ => rfl) rfl rfl trivial
  | hdrop x r =>
    simp only [stepPP]; exact plain _ _ (fun _ => by ctl_frame) rfl (PP.win_dispatch _) (PP.hwf_dispatch _)
  | slot n j =>
    simp only [stepPP]
    (repeat' split) <;> first
      | exact plain _ _ (fun _ => by ctl_frame) rfl (PP.win_nextSlot _ _) (PP.hwf_nextSlot _ _)
      | exact plain _ _ (fun _ => by ctl_frame) rfl rfl trivial
  | slotInc n j =>
    simp only [stepPP]; exact plain _ _ (fun _ => by ctl_frame) rfl (PP.win_nextSlot _ _) (PP.hwf_nextSlot _ _)
  | h2 x | hres x | h4 x r | h5 x r t' | h6 x r t' m =>
    -- the helper goes on with the control word it remembers
    simp only [stepPP]; (repeat' split) <;> exact plain _ _ (fun _ => by ctl_frame) rfl rfl hw
  | _ => simp only [stepPP] <;> (repeat' split) <;> exact plain _ _ (fun _ => by ctl_frame) rfl rfl trivial

theorem CtlStep.beyond {s s' : Shared} {n0 n0' : Option Nat} {w w' : Option Nat} (h : CtlStep s n0 w s' n0' w')
    (hc : CtlBeyond s) (hm : s.nNodes ≤ s'.nNodes) (hlt : ∀ n, n0 = some n → n < s.nNodes) : CtlBeyond s' := by
  intro k hk
  have hk' : s.nNodes ≤ k := by omega
  cases h with
  | same h1 _ _ => rw [h1 k]; exact hc k hk'
  | opens n g a _ _ _ e =>
    have := hlt n a
    rw [e k]; have : k ≠ n := by omega
    simp only [this, ↓reduceIte]; exact hc k hk'
  | closes n g _ _ _ d e =>
    by_cases hkn : k = n
    · subst hkn; exact d
    · rw [e k hkn]; exact hc k hk'
  | hands who g m a _ _ d =>
    rw [d k]
    by_cases hkw : k = who
    · subst hkw; have := hc k hk'; rw [a] at this; cases this
    · simp only [hkw, ↓reduceIte]; exact hc k hk'

def CP.hwf : CP → Prop
  | .pay _ pp => pp.hwf
  | _ => True

theorem CP.afterLoad_win (cur new : Nat) (ld : LP) : (CP.afterLoad cur new ld).win = ld.win := by
  cases ld <;> simp only [CP.afterLoad] <;> (repeat' split) <;> rfl
theorem CP.afterLoad_hwf (cur new : Nat) (ld : LP) : (CP.afterLoad cur new ld).hwf := by
  cases ld <;> simp only [CP.afterLoad] <;> (repeat' split) <;> trivial
theorem CP.afterPay_win (old : Guard) (pp : PP) : (CP.afterPay old pp).win = pp.win := by
  cases pp <;> simp only [CP.afterPay] <;> (try split) <;> rfl
theorem CP.afterPay_hwf (old : Guard) (pp : PP) (hw : pp.hwf) : (CP.afterPay old pp).hwf := by
  cases pp <;> simp only [CP.afterPay] <;> (try split) <;> first | exact hw | trivial
theorem CP.afterDropOld_win (gd : GD) : (CP.afterDropOld gd).win = none := by cases gd <;> rfl
theorem CP.afterDropOld_hwf (gd : GD) : (CP.afterDropOld gd).hwf := by cases gd <;> trivial

theorem stepCP_ctl (cfg : Cfg) (c cur new : Nat) (s : Shared) (l : Locals) (b : Bool) (cp : CP)
    (hc : CtlBeyond s) (hk : cp.okN s l) (hw : cp.hwf) (hf : (stepCP cfg c cur new s l b cp).1.fault = none) :
    CtlStep s l.node cp.win (stepCP cfg c cur new s l b cp).1 (stepCP cfg c cur new s l b cp).2.1.node
        (stepCP cfg c cur new s l b cp).2.2.1.win ∧ (stepCP cfg c cur new s l b cp).2.2.1.hwf := by
  cases cp with
  | load ld =>
    rw [stepCP_load] at hf ⊢; rw [CP.afterLoad_win]
    exact ⟨stepLP_ctl cfg c s l b ld hc hk hf, CP.afterLoad_hwf _ _ _⟩
  | pay old pp =>
    rw [stepCP_pay] at hf ⊢; rw [CP.afterPay_win]
    have h1 := stepPP_ctl cfg old.ptr c s l b pp hc hk hw hf
    exact ⟨h1.1, CP.afterPay_hwf _ _ h1.2⟩
  | dropOld gd =>
    rw [stepCP_dropOld]
    exact ⟨.same (stepGD_ctl s gd) (CP.afterDropOld_win _) (fun _ => rfl), CP.afterDropOld_hwf _⟩
  | _ =>
    simp only [stepCP] <;> (repeat' split) <;> exact ⟨.same (fun _ => by ctl_frame) rfl (fun _ => rfl), trivial⟩

def RP.hwf : RP → Prop
  | .cas _ _ cp => cp.hwf
  | _ => True

theorem RP.afterLoad_win (ld : LP) : (RP.afterLoad ld).win = ld.win := by cases ld <;> rfl
theorem RP.afterLoad_hwf (ld : LP) : (RP.afterLoad ld).hwf := by cases ld <;> trivial
theorem RP.afterCas_win (cur : Guard) (a : Nat) (cp : CP) : (RP.afterCas cur a cp).win = cp.win := by
  cases cp <;> simp only [RP.afterCas] <;> (repeat' split) <;> rfl
theorem RP.afterCas_hwf (cur : Guard) (a : Nat) (cp : CP) (hw : cp.hwf) : (RP.afterCas cur a cp).hwf := by
  cases cp <;> simp only [RP.afterCas] <;> (repeat' split) <;> first | exact hw | trivial
theorem RP.afterIntoPrev_win (cur prev : Guard) (gi : GI) : (RP.afterIntoPrev cur prev gi).win = none := by
  cases gi <;> simp only [RP.afterIntoPrev] <;> (try split) <;> rfl
theorem RP.afterIntoPrev_hwf (cur prev : Guard) (gi : GI) : (RP.afterIntoPrev cur prev gi).hwf := by
  cases gi <;> simp only [RP.afterIntoPrev] <;> (try split) <;> trivial
theorem RP.afterDropCur_win (res : Nat) (gd : GD) : (RP.afterDropCur res gd).win = none := by cases gd <;> rfl
theorem RP.afterDropCur_hwf (res : Nat) (gd : GD) : (RP.afterDropCur res gd).hwf := by cases gd <;> trivial
theorem RP.afterDropCurLoop_win (prev : Guard) (gd : GD) : (RP.afterDropCurLoop prev gd).win = none := by cases gd <;> rfl
theorem RP.afterDropCurLoop_hwf (prev : Guard) (gd : GD) : (RP.afterDropCurLoop prev gd).hwf := by cases gd <;> trivial

theorem stepRP_ctl (cfg : Cfg) (c : Nat) (s : Shared) (l : Locals) (b : Bool) (tries : Nat) (rp : RP)
    (hc : CtlBeyond s) (hk : rp.okN s l) (hw : rp.hwf) (hf : (stepRP cfg c s l b tries rp).1.fault = none) :
    CtlStep s l.node rp.win (stepRP cfg c s l b tries rp).1 (stepRP cfg c s l b tries rp).2.1.node
        (stepRP cfg c s l b tries rp).2.2.1.win ∧ (stepRP cfg c s l b tries rp).2.2.1.hwf := by
  cases rp with
  | load ld =>
    rw [stepRP_load] at hf ⊢; rw [RP.afterLoad_win]
    exact ⟨stepLP_ctl cfg c s l b ld hc hk hf, RP.afterLoad_hwf _⟩
  | cas cur a cp =>
    rw [stepRP_cas] at hf ⊢; rw [RP.afterCas_win]
    have h1 := stepCP_ctl cfg c cur.ptr a s l b cp hc hk hw hf
    exact ⟨h1.1, RP.afterCas_hwf _ _ _ h1.2⟩
  | intoPrev cur prev gi =>
    rw [stepRP_intoPrev]
    exact ⟨.same (stepGI_ctl s gi) (RP.afterIntoPrev_win _ _ _) (fun _ => rfl), RP.afterIntoPrev_hwf _ _ _⟩
  | dropCur res gd =>
    rw [stepRP_dropCur]
    exact ⟨.same (stepGD_ctl s gd) (RP.afterDropCur_win _ _) (fun _ => rfl), RP.afterDropCur_hwf _ _⟩
  | dropCurLoop prev gd =>
    rw [stepRP_dropCurLoop]
    exact ⟨.same (stepGD_ctl s gd) (RP.afterDropCurLoop_win _ _) (fun _ => rfl), RP.afterDropCurLoop_hwf _ _⟩
  | attempt cur => simp only [stepRP]; split <;> exact ⟨.same (fun _ => by ctl_frame) rfl (fun _ => rfl), trivial⟩
  | done r => exact ⟨.same (fun _ => rfl) rfl (fun _ => rfl), trivial⟩

def OpSt.hwf : OpSt → Prop
  | .swapPay _ _ _ _ pp | .cinto _ _ _ pp | .dropc _ _ pp => pp.hwf
  | .cas _ _ _ _ _ _ cp => cp.hwf
  | .rcu _ _ _ rp => rp.hwf
  | _ => True

theorem OpSt.fresh.win {op : OpSt} (h : op.fresh) : op.win = none := by
  cases op <;> first | rfl | (cases h; rfl) | exact h.elim
theorem OpSt.fresh.hwf {op : OpSt} (h : op.fresh) : op.hwf := by
  cases op <;> first | trivial | (cases h; trivial) | exact h.elim

theorem OpSt.next_ctl (cfg : Cfg) (s : Shared) (l : Locals) (b : Bool) (op : OpSt) (hni : op ≠ .idle)
    (hc : CtlBeyond s) (hk : op.okN s l) (hw : op.hwf) (hf : (op.core cfg s l b).fault = none) :
    CtlStep s l.node op.win (op.core cfg s l b) (op.next cfg s l b).2.node (op.next cfg s l b).1.win ∧
      (op.next cfg s l b).1.hwf := by
  have plain : ∀ (s' : Shared) (n' : Option Nat), (∀ n, (s'.nodes n).control = (s.nodes n).control) →
      CtlStep s l.node none s' n' none := fun s' n' h => .same h rfl (fun h => absurd rfl h)
  cases op with
  | idle => exact absurd rfl hni
  | finished => simp only [OpSt.next, OpSt.core]; exact ⟨plain _ _ (fun _ => rfl), trivial⟩
  | load c g ld | loadFull c g ld =>
    have h1 := stepLP_ctl cfg c s l b ld hc hk hf
    simp only [OpSt.next, OpSt.core]
    generalize (stepLP cfg c s l b ld).2.2.1 = x at h1 ⊢
    split <;> first | exact ⟨h1, trivial⟩ | (split <;> exact ⟨h1, trivial⟩)
  | swapPay c out p isStore pp | cinto c x p pp | dropc c p pp =>
    have h1 := stepPP_ctl cfg p c s l b pp hc hk hw hf
    simp only [OpSt.next, OpSt.core]
    generalize (stepPP cfg p c s l b pp).2.2.1 = x at h1 ⊢
    (repeat' split) <;> exact h1
  | cas c cur keep curPtr new g cp =>
    have h1 := stepCP_ctl cfg c curPtr new s l b cp hc hk hw hf
    simp only [OpSt.next, OpSt.core]
    generalize (stepCP cfg c curPtr new s l b cp).2.2.1 = x at h1 ⊢
    split <;> exact h1
  | rcu c out tries rp =>
    have h1 := stepRP_ctl cfg c s l b tries rp hc hk hw hf
    simp only [OpSt.next, OpSt.core]
    generalize (stepRP cfg c s l b tries rp).2.2.1 = x at h1 ⊢
    split <;> exact h1
  | exitCool cd =>
    simp only [OpSt.next, OpSt.core]
    generalize (stepCD s cd).2.1 = x
    split <;> exact ⟨plain _ _ (stepCD_ctl s cd), trivial⟩
  | loadFullInto _ _ _ gi | ginto _ _ gi =>
    simp only [OpSt.next, OpSt.core]
    generalize (stepGI s gi).2.1 = x
    split <;> exact ⟨plain _ _ (stepGI_ctl s gi), trivial⟩
  | dropg gd =>
    simp only [OpSt.next, OpSt.core]
    generalize (stepGD s gd).2.1 = x
    split <;> exact ⟨plain _ _ (stepGD_ctl s gd), trivial⟩
  | swapSw c a out isStore =>
    simp only [OpSt.next, OpSt.core]
    cases s.cells c <;> exact ⟨plain _ _ (fun _ => rfl), trivial⟩
  | cloneh _ _ a | droph a | swapDrop _ a | dropcDec _ a =>
    simp only [OpSt.next, OpSt.core]; exact ⟨plain _ _ (fun _ => by ctl_frame), trivial⟩

theorem microStep_ctl (st : State) (t : Nat) (b : Bool) (hc : CtlBeyond st.sh)
    (hk : (st.th t).op.okN st.sh (st.th t).loc) (hw : (st.th t).op.hwf)
    (hf : (microStep st t b).1.sh.fault = none) :
    CtlStep st.sh (st.th t).loc.node (st.th t).op.win (microStep st t b).1.sh
        ((microStep st t b).1.th t).loc.node ((microStep st t b).1.th t).op.win ∧
      ((microStep st t b).1.th t).op.hwf := by
  by_cases hi : (st.th t).op = .idle
  · -- the thread exits or starts an operation: no node is touched
    have hw0 : (st.th t).op.win = none := by rw [hi]; rfl
    cases hp : (st.th t).prog with
    | nil =>
      simp only [microStep, hi, hp, upd_same]
      refine ⟨.same (fun _ => rfl) ?_ (fun h => absurd rfl h), ?_⟩ <;> split <;> first | rfl | trivial
    | cons x rest =>
      obtain ⟨txt, o⟩ := x
      rw [microStep_idle_cons st t b hi hp]
      have hfr := beginOp_fresh { st with th := upd st.th t { st.th t with prog := rest } } t o
      exact ⟨.same (fun n => by rw [beginOp_nodes]) (hfr.win.trans hw0.symm) (fun h => absurd hw0 h), hfr.hwf⟩
  · have hcore := microStep_core st t b hi
    obtain ⟨ho, hl, _⟩ := microStep_next st t b hi
    rw [hcore.fault] at hf
    rw [ho, hl]
    have h := OpSt.next_ctl st.cfg st.sh (st.th t).loc b _ hi hc hk hw hf
    exact ⟨h.1.frame hcore.nodes, h.2⟩

theorem PP.win_lp (pp : PP) : pp.win = pp.lp?.bind LP.win := by cases pp <;> rfl
theorem CP.win_lp (cp : CP) : cp.win = cp.lp?.bind LP.win := by
  cases cp <;> first | rfl | exact PP.win_lp _
theorem RP.win_lp (rp : RP) : rp.win = rp.lp?.bind LP.win := by
  cases rp <;> first | rfl | exact CP.win_lp _
theorem OpSt.win_lp (op : OpSt) : op.win = op.lp?.bind LP.win := by
  cases op <;> first | rfl | exact PP.win_lp _ | exact CP.win_lp _ | exact RP.win_lp _

theorem owns_of_win (th : Thread) (g : Nat) (h : th.op.win = some g) : ownsT th = th.loc.node := by
  rw [OpSt.win_lp] at h
  cases hl : th.op.lp? with
  | none => rw [hl] at h; cases h
  | some ld =>
    rw [hl] at h
    rw [ownsT_of_lp th ld hl]
    cases ld <;> first | rfl | cases h

structure CtlInv (st : State) : Prop where
  beyond : CtlBeyond st.sh
  hwf : ∀ t, (st.th t).op.hwf
  owner : ∀ n, (st.sh.nodes n).control ≠ .idle → ∃ t g, (st.th t).loc.node = some n ∧ (st.th t).op.win = some g ∧
      ((st.sh.nodes n).control = .gen g ∨ ∃ j, (st.sh.nodes n).control = .env j)
  inside : ∀ t g n, (st.th t).op.win = some g → (st.th t).loc.node = some n →
      ((st.sh.nodes n).control = .gen g ∨ ∃ j, (st.sh.nodes n).control = .env j)

theorem CtlInv.initial (cfg : Cfg) (progs : Nat → List (String × Op)) : CtlInv (State.initial cfg progs) :=
  ⟨fun n _ => rfl, fun t => trivial, fun n h => absurd rfl h, fun t g n h => by cases h⟩

theorem CtlInv.step {st : State} (h : CtlInv st) (t : Nat) (b : Bool) (hN : NodesOk st.sh)
    (hk : ∀ t, (st.th t).op.okN st.sh (st.th t).loc) (ho : OwnInv st)
    (hf : (microStep st t b).1.sh.fault = none) : CtlInv (microStep st t b).1 := by
  obtain ⟨hstep, hwf'⟩ := microStep_ctl st t b h.beyond (hk t) (h.hwf t) hf
  have hoth := fun t' (ht : t' ≠ t) => microStep_th_other st t b ht
  have ho' := ho.step t b
  have hmono := (microStep_okN st t b hN (hk t)).2.2
  have hlt := OpSt.okN_lt (hk t)
  have out : (st.th t).op.win = none → ∀ {t' g'}, (st.th t').op.win = some g' → t' ≠ t :=
    fun hw t' g' h e => by subst e; rw [hw] at h; cases h
  refine ⟨hstep.beyond h.beyond hmono hlt, fun t' => ?_, fun n hn => ?_, fun t' g n hw hn => ?_⟩
  · by_cases ht : t' = t
    · subst ht; exact hwf'
    · rw [hoth t' ht]; exact h.hwf t'
  · cases hstep with
    | same h1 h2 h3 =>
      rw [h1 n] at hn ⊢
      obtain ⟨t', g, a1, a2, a3⟩ := h.owner n hn
      by_cases ht : t' = t
      · subst ht
        refine ⟨t', g, ?_, by rw [h2]; exact a2, a3⟩
        rw [h3 (by rw [a2]; simp)]; exact a1
      · exact ⟨t', g, by rw [hoth t' ht]; exact a1, by rw [hoth t' ht]; exact a2, a3⟩
    | opens m g a1 a2 a3 a4 a5 =>
      rw [a5 n] at hn ⊢
      by_cases hnm : n = m
      · subst hnm; exact ⟨t, g, a2, a4, by simp⟩
      · simp only [hnm, ↓reduceIte] at hn ⊢
        obtain ⟨t', g', b1, b2, b3⟩ := h.owner n hn
        have ht := out a3 b2
        exact ⟨t', g', by rw [hoth t' ht]; exact b1, by rw [hoth t' ht]; exact b2, b3⟩
    | closes m g a1 a2 a3 a4 a5 =>
      by_cases hnm : n = m
      · subst hnm; exact absurd a4 hn
      · rw [a5 n hnm] at hn ⊢
        obtain ⟨t', g', b1, b2, b3⟩ := h.owner n hn
        have ht : t' ≠ t := fun e => by
          subst e; rw [a1] at b1; simp only [Option.some.injEq] at b1; exact hnm b1.symm
        exact ⟨t', g', by rw [hoth t' ht]; exact b1, by rw [hoth t' ht]; exact b2, b3⟩
    | hands who g m a1 a2 a3 a4 =>
      rw [a4 n] at hn ⊢
      by_cases hnw : n = who
      · subst hnw
        obtain ⟨t', g', b1, b2, b3⟩ := h.owner n (by rw [a1]; simp)
        have ht := out a2 b2
        exact ⟨t', g', by rw [hoth t' ht]; exact b1, by rw [hoth t' ht]; exact b2, by simp⟩
      · simp only [hnw, ↓reduceIte] at hn ⊢
        obtain ⟨t', g', b1, b2, b3⟩ := h.owner n hn
        have ht := out a2 b2
        exact ⟨t', g', by rw [hoth t' ht]; exact b1, by rw [hoth t' ht]; exact b2, b3⟩
  · by_cases ht : t' = t
    · subst ht
      cases hstep with
      | same h1 h2 h3 =>
        rw [h1 n]
        rw [h2] at hw
        exact h.inside t' g n hw (by rw [← h3 (by rw [hw]; simp)]; exact hn)
      | opens m g' a1 a2 a3 a4 a5 =>
        rw [a4] at hw; rw [a2] at hn
        simp only [Option.some.injEq] at hw hn
        subst hw; subst hn
        rw [a5 m]; simp
      | closes m g' a1 a2 a3 a4 a5 => rw [a3] at hw; cases hw
      | hands who g' m a1 a2 a3 a4 => rw [a3] at hw; cases hw
    · have hw0 : (st.th t').op.win = some g := by rw [← hoth t' ht]; exact hw
      have hn0 : (st.th t').loc.node = some n := by rw [← hoth t' ht]; exact hn
      have old := h.inside t' g n hw0 hn0
      have own' : ownsT ((microStep st t b).1.th t') = some n := by
        rw [owns_of_win _ g hw]; exact hn
      cases hstep with
      | same h1 _ _ => rw [h1 n]; exact old
      | opens m g' a1 a2 a3 a4 a5 =>
        rw [a5 n]
        by_cases hnm : n = m
        · subst hnm
          have ownt : ownsT ((microStep st t b).1.th t) = some n := by rw [owns_of_win _ g' a4]; exact a2
          exact absurd ownt (ho'.excl t' t n ht own')
        · simp only [hnm, ↓reduceIte]; exact old
      | closes m g' a1 a2 a3 a4 a5 =>
        by_cases hnm : n = m
        · subst hnm
          have ownt : ownsT (st.th t) = some n := by rw [owns_of_win _ g' a2]; exact a1
          have ownt' : ownsT (st.th t') = some n := by rw [owns_of_win _ g hw0]; exact hn0
          exact absurd ownt (ho.excl t' t n ht ownt')
        · rw [a5 n hnm]; exact old
      | hands who g' m a1 a2 a3 a4 =>
        rw [a4 n]
        by_cases hnw : n = who
        · subst hnw; simp
        · simp only [hnw, ↓reduceIte]; exact old

/-- node bookkeeping of every thread (no assumption about hand-overs) -/
structure NodeInv (st : State) : Prop where
  nodes : NodesOk st.sh
  th : ∀ t, (st.th t).op.okN st.sh (st.th t).loc

theorem NodeInv.initial (cfg : Cfg) (progs : Nat → List (String × Op)) : NodeInv (State.initial cfg progs) :=
  ⟨(Wf.initial 1 cfg progs).nodes, (Wf.initial 1 cfg progs).thN⟩

theorem NodeInv.step {st : State} (h : NodeInv st) (t : Nat) (b : Bool) : NodeInv (microStep st t b).1 :=
  let ⟨h1, h2⟩ := microStep_okN_all st t b h.nodes h.th
  ⟨h1, h2⟩

theorem NodeInv.reachable {st : State} (h : Reachable st) : NodeInv st :=
  h.induct NodeInv.initial (fun _ t b _ hn => hn.step t b)

theorem CtlInv.reachable {st : State} (h : Reachable st) (hf : st.sh.fault = none) : CtlInv st :=
  h.induct_ff CtlInv.initial
    (fun _ t b hr _ ih hf' => ih.step t b (NodeInv.reachable hr).nodes (NodeInv.reachable hr).th (OwnInv.reachable hr) hf') hf

theorem control_idle_outside {st : State} (h : CtlInv st) (ho : OwnInv st) (t n : Nat)
    (hown : ownsT (st.th t) = some n) (hw : (st.th t).op.win = none) : (st.sh.nodes n).control = .idle := by
  apply Classical.byContradiction
  intro hne
  obtain ⟨t', g, a1, a2, _⟩ := h.owner n hne
  by_cases ht : t' = t
  · subst ht; rw [hw] at a2; cases a2
  · have : ownsT (st.th t') = some n := by rw [owns_of_win _ g a2]; exact a1
    exact ho.excl t' t n ht this hown

end M
