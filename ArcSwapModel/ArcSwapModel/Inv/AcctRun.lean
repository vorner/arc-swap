import ArcSwapModel.Inv.AcctT
import ArcSwapModel.Inv.Own

/-!
# The ledger over whole executions

`Ledger K N T st`: for every value `a`, its strong count plus the debt slots naming it equals the
references held by the registers (containers, handles, guards) plus the units of the operations in
flight on the threads below `T`.  It holds initially and is preserved by every step that satisfies
`StepOK` (`Ledger.step`, from `microStep_cons`), hence along every execution all of whose steps do
(`Ledger.run`).  At quiescence — no operation in flight — it says: **strong count + occupied slots
= number of owners**, and with all slots empty, strong count = number of owners (`Ledger.quiescent`).

`StepOK` collects what `microStep_cons` assumes.  Part of it is about the program and the
environment and is assumed here (registers are not raced on, `mk` creates fresh
containers, the value pool is not exhausted, no hand-over succeeds in this step — the hand-over
pair is stated separately in `Inv/Acct`); the rest is local well-formedness of program counters
(slot indices in range, the thread's node index below `K`, nodes beyond `nNodes` untouched), which
`Inv/AcctWf`, `Inv/AcctNode` and `Inv/AcctFinal` prove invariant.
-/

namespace M
open Consts

/-- Induction over a schedule: `R st sched` says that every step of the execution of `sched` from
    `st` satisfies `H`; what every such step keeps holds at the end. -/
theorem run_invariant {H : State → Nat → Bool → Prop} {R : State → List (Nat × Bool) → Prop}
    (hR : ∀ st t b rest, R st ((t, b) :: rest) → H st t b ∧ R (microStep st t b).1 rest)
    {P : State → Prop} (hs : ∀ st t b, H st t b → P st → P (microStep st t b).1) :
    ∀ (sched : List (Nat × Bool)) {st : State}, R st sched → P st → P (run st sched)
  | [], _, _, h => h
  | (t, b) :: rest, _, hr, h => run_invariant hR hs rest (hR _ t b rest hr).2 (hs _ t b (hR _ t b rest hr).1 h)

theorem sumN_zero (K : Nat) : sumN (fun _ => 0) K = 0 := by
  induction K with
  | zero => rfl
  | succ k ih => simp [sumN, ih]

theorem sumN_eq_zero {f : Nat → Nat} {K : Nat} (h : ∀ n, n < K → f n = 0) : sumN f K = 0 :=
  (sumN_congr h).trans (sumN_zero K)

/-- no slot names `a` -/
theorem occ_eq_zero {K : Nat} {nodes : Nat → Node} {a : Nat}
    (h : ∀ n i, (nodes n).fast i ≠ .ptr a ∧ (nodes n).hslot ≠ .ptr a) : occ K nodes a = 0 :=
  sumN_eq_zero fun n _ => by
    simp only [occN, ind, if_neg (h n 0).2, sumN_eq_zero fun i _ => if_neg (h n i).1]

def threadsU (T : Nat) (st : State) (a : Nat) : Nat := sumN (fun t => uOp (st.th t).op a) T

/-- the ledger balances -/
def Ledger (K N T : Nat) (st : State) : Prop :=
  ∀ a, a ≠ 0 → pot K st.sh a = st.sh.regs N a + threadsU T st a

/-- what one step of thread `t` needs for `microStep_cons` -/
structure StepOK (K N : Nat) (st : State) (t : Nat) (b : Bool) : Prop where
  ok : (st.th t).op.ok K N st.sh
  node : (st.th t).loc.node.getD 0 < K
  beyond : Beyond st.sh
  nodesBelow : st.sh.nNodes ≤ K
  noHandover : ∀ h r x m, (st.th t).op.pp? = some (.h7 h r x m) → (st.sh.nodes h.who).control ≠ h.ctl
  room : ∀ v, (st.sh.heap (alloc st.sh v).2.1).cnt = 0
  next : ∀ txt o rest, (st.th t).prog = (txt, o) :: rest → o.below N ∧ (∀ c h, o = .mk c h → st.sh.cells c = none)
  noFault : (microStep st t b).1.sh.fault = none

theorem Ledger.step {K N T : Nat} {st : State} (h : Ledger K N T st) (t : Nat) (b : Bool) (ht : t < T)
    (hs : StepOK K N st t b) : Ledger K N T (microStep st t b).1 := by
  intro a ha
  have hc := microStep_cons K N st t b hs.ok hs.node hs.beyond hs.nodesBelow hs.noHandover hs.room hs.next hs.noFault a ha
  have hsum := @sumN_upd (fun t' => uOp (st.th t').op a) (fun t' => uOp ((microStep st t b).1.th t').op a) T t ht
    (fun m hm => by rw [microStep_th_other st t b hm])
  have h0 := h a ha
  simp only [threadsU] at h0 ⊢
  omega

/-- executions all of whose steps are `StepOK` (threads below `T`) -/
def GoodRun (K N T : Nat) : State → List (Nat × Bool) → Prop
  | _, [] => True
  | st, (t, b) :: rest => t < T ∧ StepOK K N st t b ∧ GoodRun K N T (microStep st t b).1 rest

theorem Ledger.run {K N T : Nat} {st : State} (h : Ledger K N T st) (sched : List (Nat × Bool))
    (hg : GoodRun K N T st sched) : Ledger K N T (run st sched) :=
  run_invariant (H := fun st t b => t < T ∧ StepOK K N st t b) (fun _ _ _ _ hr => ⟨⟨hr.1, hr.2.1⟩, hr.2.2⟩)
    (fun _ t b hH h => h.step t b hH.1 hH.2) sched hg h

theorem Ledger.initial (K N T : Nat) (cfg : Cfg) (progs : Nat → List (String × Op)) :
    Ledger K N T (State.initial cfg progs) := by
  intro a ha
  have e1 : pot K (State.initial cfg progs).sh a = 0 :=
    (Nat.zero_add _).trans (occ_eq_zero fun _ _ => ⟨nofun, nofun⟩)
  have e2 : (State.initial cfg progs).sh.regs N a = 0 := by
    show sumN (fun _ => 0) N + sumN (fun _ => 0) N + sumN (fun _ => 0) N = 0
    simp only [sumN_zero]
  have e3 : threadsU T (State.initial cfg progs) a = 0 := sumN_zero T
  omega

/-- **C02, the global sum (conditional).**  Along every execution from the initial state all of
    whose steps are `StepOK`, the ledger balances. -/
theorem C02_ledger (K N T : Nat) (cfg : Cfg) (progs : Nat → List (String × Op)) (sched : List (Nat × Bool))
    (hg : GoodRun K N T (State.initial cfg progs) sched) :
    Ledger K N T (run (State.initial cfg progs) sched) :=
  (Ledger.initial K N T cfg progs).run sched hg

/-- at quiescence (no operation in flight on any thread below `T`, no debt slot naming the value) the
    strong count of every value is exactly the number of containers, handles and guards denoting it -/
theorem Ledger.quiescent {K N T : Nat} {st : State} (h : Ledger K N T st)
    (hidle : ∀ t, t < T → uOp (st.th t).op = fun _ => 0)
    (a : Nat) (ha : a ≠ 0)
    (hslots : ∀ n i, (st.sh.nodes n).fast i ≠ .ptr a ∧ (st.sh.nodes n).hslot ≠ .ptr a) :
    (st.sh.heap a).cnt = st.sh.regs N a := by
  have h0 := h a ha
  have e1 : threadsU T st a = 0 := sumN_eq_zero fun t ht => by rw [hidle t ht]
  simp only [pot, occ_eq_zero hslots, e1] at h0
  exact h0

/-- non-vacuity: a concrete execution (one thread creating a value) satisfies `GoodRun` -/
example : GoodRun 1 4 1 (State.initial {} (fun t => if t = 0 then [("new h0 5", .new 0 5)] else [])) [(0, false)] := by
  refine ⟨by decide, ⟨trivial, by decide, ?_, by decide, ?_, ?_, ?_, by decide⟩, trivial⟩
  · intro n _; exact ⟨fun _ => rfl, rfl⟩
  · intro h r x m hh; cases hh
  · intro v; rfl
  · intro txt o rest hp
    simp only [State.initial, ↓reduceIte, List.cons.injEq, Prod.mk.injEq] at hp
    obtain ⟨⟨_, rfl⟩, _⟩ := hp
    exact ⟨by show 0 < 4; decide, fun c h e => by cases e⟩

end M
