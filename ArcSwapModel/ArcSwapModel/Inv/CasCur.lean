import ArcSwapModel.Inv.RcuVal2

/-!
# `compare_and_swap`: what `current` denotes stays alive during the call

The caller's `current` (a handle, or a guard) is held by the operation for the whole call, so the
object it denotes is counted in every state of the call: its address is not re-allocated, and the
pointer comparison at the exchange is a comparison of objects.
-/

namespace M
open Consts

/-- `current` given as a handle -/
theorem cas_current_handle_counted (K N T : Nat) (hK : 0 < K) (cfg : Cfg) (progs : Nat → List (String × Op))
    (sched : List (Nat × Bool)) (he : EnvRun0 K N T (State.initial cfg progs) sched)
    (hf : (run (State.initial cfg progs) sched).sh.fault = none)
    (t c hc : Nat) (keep : Option Guard) (curPtr new g : Nat) (cp : CP) (hp : curPtr ≠ 0)
    (hop : ((run (State.initial cfg progs) sched).th t).op = .cas c (.h hc) keep curPtr new g cp) :
    1 ≤ ((run (State.initial cfg progs) sched).sh.heap curPtr).cnt ∧
      ((run (State.initial cfg progs) sched).sh.heap curPtr).live = true := by
  refine thread_held_alive K N T hK cfg progs sched he hf curPtr hp t
    ((idleBeyond_run sched he (fun _ _ => rfl)).lt (by rw [hop]; exact fun e => by cases e)) (Or.inl ?_)
  rw [hop]
  have h1 := CP.claims_len new cp ((run (State.initial cfg progs) sched).th t).loc curPtr
  have h2 := gClaims_len keep curPtr
  simp only [OpSt.claims, uOp, List.length_append, u, ↓reduceIte]; omega

/-- `current` given as a guard -/
theorem cas_current_guard_counted (K N T : Nat) (hK : 0 < K) (cfg : Cfg) (progs : Nat → List (String × Op))
    (sched : List (Nat × Bool)) (he : EnvRun0 K N T (State.initial cfg progs) sched)
    (hf : (run (State.initial cfg progs) sched).sh.fault = none)
    (t c gc : Nat) (cg : Guard) (new g : Nat) (cp : CP) (hp : cg.ptr ≠ 0)
    (hop : ((run (State.initial cfg progs) sched).th t).op = .cas c (.g gc) (some cg) cg.ptr new g cp) :
    1 ≤ ((run (State.initial cfg progs) sched).sh.heap cg.ptr).cnt ∧
      ((run (State.initial cfg progs) sched).sh.heap cg.ptr).live = true := by
  have hok := (Wf.run0 hK (Wf.initial K cfg progs) sched he).thL t
  rw [hop] at hok
  refine thread_held_alive K N T hK cfg progs sched he hf cg.ptr hp t
    ((idleBeyond_run sched he (fun _ _ => rfl)).lt (by rw [hop]; exact fun e => by cases e)) ?_
  rw [hop]
  refine held_guard_case (hok.2 cg rfl) (fun _ hx => List.mem_append_right _ hx) ?_ (fun n i hn hu hd => ?_)
  · have := CP.claims_len new cp ((run (State.initial cfg progs) sched).th t).loc cg.ptr
    simp only [OpSt.claims, gClaims, uOp, gU, uG, List.length_append]; omega
  · rw [OpSt.claims, gClaims, cnt2_append, Nat.add_comm]; exact cnt2_guard_cp hn hu hd

end M
