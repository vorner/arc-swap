import ArcSwapModel.Inv.HazH4
import ArcSwapModel.Inv.AssertFree2
import ArcSwapModel.Inv.LpBack
import ArcSwapModel.Inv.NonNull

/-!
# A step that touches no count can only raise an assertion

`UF s s'`: the step from `s` to `s'` raises no use-after-free, no double free and no stuck state —
if it raises a fault at all, it is an assertion of the crate.  This holds for every step that
touches no reference count (`touch = none`), given the container it works on exists, it is not at
the receiving end of a hand-over, and — for `rcu`'s closure — the value it dereferences is alive.
With `no_assertion_fires` (no assertion fires either) such a step raises no fault at all.
-/

namespace M
open Consts

def UF (s s' : Shared) : Prop := s.fault = none → ∀ f, s'.fault = some f → f.isAssert = true

theorem UF.same {s s' : Shared} (h : s'.fault = s.fault) : UF s s' := by
  intro hf f hf'; rw [h, hf] at hf'; cases hf'

theorem UF.setFault (s : Shared) (f0 : Fault) (h : f0.isAssert = true) : UF s (s.setFault f0) := by
  intro hf f hf'
  rw [setFault_fault_of_none _ _ hf] at hf'; cases hf'; exact h

theorem UF.of_eq {s s' s'' : Shared} (h : UF s s') (e : s''.fault = s'.fault) : UF s s'' := by
  intro hf f hf'; rw [e] at hf'; exact h hf f hf'

theorem UF.setFault_of {s s1 : Shared} (f0 : Fault) (h : f0.isAssert = true) (e : s1.fault = s.fault) :
    UF s (s1.setFault f0) := by
  intro hf f hf'
  rw [setFault_fault_of_none _ _ (by rw [e]; exact hf)] at hf'; cases hf'; exact h

/-- the three ways a state of a sub-machine that touches no count leaves the fault flag: as it was,
    or with an assertion, possibly after a write to a node -/
macro "uf_close" : tactic =>
  `(tactic| first | exact UF.same rfl | exact UF.setFault _ _ rfl | exact UF.setFault_of _ rfl rfl)

theorem stepNG_uf (s : Shared) (b : Bool) (ng : NG) : UF s (stepNG s b ng).1 := by
  rcases stepNG_fault s b ng with h | ⟨h, _⟩
  · exact .same h
  · exact (UF.setFault s chkAssert rfl).of_eq h

theorem stepCD_uf (s : Shared) (cd : CD) : UF s (stepCD s cd).1 := by
  cases cd <;> simp only [stepCD] <;> (try split) <;> uf_close

theorem stepGD_uf (s : Shared) (gd : GD) (h : gd.touch = none) : UF s (stepGD s gd).1 := by
  cases gd with
  | dec p => cases h
  | _ => simp only [stepGD] <;> (try split) <;> uf_close

theorem stepGI_uf (s : Shared) (gi : GI) (h : gi.touch = none) : UF s (stepGI s gi).1 := by
  cases gi with
  | inc p n i => cases h
  | dec p => cases h
  | _ => simp only [stepGI] <;> (try split) <;> uf_close

def LP.preU (s : Shared) (c : Nat) : LP → Prop
  | .a1 | .a3 _ _ | .f3 _ => s.cells c ≠ none
  | .fr1 _ _ => False
  | _ => True

theorem stepLP_uf (cfg : Cfg) (c : Nat) (s : Shared) (l : Locals) (b : Bool) (lp : LP) (ht : lp.touch = none)
    (h : lp.preU s c) : UF s (stepLP cfg c s l b lp).1 := by
  cases lp with
  | get ng => rw [stepLP_get]; exact stepNG_uf s b ng
  | reget ng => rw [stepLP_reget]; exact stepNG_uf s b ng
  | cool cd => rw [stepLP_cool]; exact stepCD_uf s cd
  | a1 | a3 _ _ | f3 _ =>
    simp only [stepLP]; split
    · exact .same rfl
    · rename_i hq; exact absurd hq h
  | fr1 cand j => exact h.elim
  | a4dec p | fokInc p | fokDec p | frDec p r => cases ht
  | _ => simp only [stepLP, dbgInUse] <;> (repeat' split) <;> uf_close

def PP.preU (s : Shared) (c : Nat) : PP → Prop
  | .hload _ ld => ld.preU s c
  | _ => True

theorem stepPP_uf (cfg : Cfg) (p c : Nat) (s : Shared) (l : Locals) (b : Bool) (pp : PP) (ht : pp.touch p = none)
    (h : pp.preU s c) : UF s (stepPP cfg p c s l b pp).1 := by
  cases pp with
  | get ng => rw [stepPP_get]; exact stepNG_uf s b ng
  | hload x ld => rw [stepPP_hload]; exact stepLP_uf cfg c s l b ld ht h
  | hinto x r gi => rw [stepPP_hinto]; exact stepGI_uf s gi ht
  | inc | slotInc n j | dec | hdrop x r => cases ht
  | _ => simp only [stepPP, dbgInUse] <;> (repeat' split) <;> uf_close

def CP.preU (s : Shared) (c : Nat) : CP → Prop
  | .load ld => ld.preU s c
  | .pay _ pp => pp.preU s c
  | .cx _ => s.cells c ≠ none
  | _ => True

theorem stepCP_uf (cfg : Cfg) (c cur new : Nat) (s : Shared) (l : Locals) (b : Bool) (cp : CP)
    (ht : cp.touch new = none) (h : cp.preU s c) : UF s (stepCP cfg c cur new s l b cp).1 := by
  cases cp with
  | load ld => rw [stepCP_load]; exact stepLP_uf cfg c s l b ld ht h
  | pay old pp => rw [stepCP_pay]; exact stepPP_uf cfg old.ptr c s l b pp ht h
  | dropOld gd => rw [stepCP_dropOld]; exact stepGD_uf s gd ht
  | dropNew old | decOld old => cases ht
  | cx old =>
    simp only [stepCP]; split
    · split <;> exact .same rfl
    · rename_i hq; exact absurd hq h
  | done old => exact .same rfl

def RP.preU (s : Shared) (c : Nat) : RP → Prop
  | .load ld => ld.preU s c
  | .cas _ _ cp => cp.preU s c
  | .attempt cur => cur.ptr ≠ 0 → (s.heap cur.ptr).live = true
  | _ => True

theorem stepRP_uf (cfg : Cfg) (c : Nat) (s : Shared) (l : Locals) (b : Bool) (tries : Nat) (rp : RP)
    (ht : rp.touch = none) (h : rp.preU s c) : UF s (stepRP cfg c s l b tries rp).1 := by
  cases rp with
  | load ld => rw [stepRP_load]; exact stepLP_uf cfg c s l b ld ht h
  | cas cur x cp => rw [stepRP_cas]; exact stepCP_uf cfg c cur.ptr x s l b cp ht h
  | intoPrev cur prev gi => rw [stepRP_intoPrev]; exact stepGI_uf s gi ht
  | dropCur res gd => rw [stepRP_dropCur]; exact stepGD_uf s gd ht
  | dropCurLoop prev gd => rw [stepRP_dropCurLoop]; exact stepGD_uf s gd ht
  | attempt cur =>
    simp only [stepRP]; split
    · rename_i hq; exact absurd (h hq.1) (by simpa using hq.2)
    · exact .same rfl
  | done r => exact .same rfl

def OpSt.preU (s : Shared) : OpSt → Prop
  | .load c _ ld | .loadFull c _ ld => ld.preU s c
  | .swapPay c _ _ _ pp | .cinto c _ _ pp | .dropc c _ pp => pp.preU s c
  | .cas c _ _ _ _ _ cp => cp.preU s c
  | .rcu c _ _ rp => rp.preU s c
  | _ => True

theorem OpSt.core_uf (cfg : Cfg) (s : Shared) (l : Locals) (b : Bool) (op : OpSt) (ht : op.touch = none)
    (h : op.preU s) : UF s (op.core cfg s l b) := by
  cases op with
  | load c g ld | loadFull c g ld => exact stepLP_uf cfg c s l b ld ht h
  | loadFullInto _ _ _ gi | ginto _ _ gi => exact stepGI_uf s gi ht
  | dropg gd => exact stepGD_uf s gd ht
  | exitCool cd => exact stepCD_uf s cd
  | swapPay c _ old _ pp => exact stepPP_uf cfg old c s l b pp ht h
  | cinto c _ p pp | dropc c p pp => exact stepPP_uf cfg p c s l b pp ht h
  | cas c _ _ curPtr new _ cp => exact stepCP_uf cfg c curPtr new s l b cp ht h
  | rcu c _ tries rp => exact stepRP_uf cfg c s l b tries rp ht h
  | cloneh | droph | swapDrop | dropcDec => cases ht
  | _ => exact .same rfl

theorem microStep_uf (st : State) (t : Nat) (b : Bool) (hni : (st.th t).op ≠ .idle)
    (ht : (st.th t).op.touch = none) (h : (st.th t).op.preU st.sh) : UF st.sh (microStep st t b).1.sh :=
  (OpSt.core_uf st.cfg st.sh (st.th t).loc b _ ht h).of_eq (microStep_core st t b hni).fault

theorem beginOp_fault (st : State) (t : Nat) (o : Op) (h : ∀ g, o ≠ .gderef g) :
    (beginOp st t o).1.sh.fault = st.sh.fault := by
  cases o with
  | gderef g => exact absurd rfl (h g)
  | _ => simp only [beginOp] <;> (repeat' split) <;> rfl

theorem LP.preU_of {s : Shared} {c : Nat} {lp : LP} (hc : s.cells c ≠ none) (hfr : lp.isFr = false) : lp.preU s c := by
  cases lp <;> first | exact hc | trivial | (cases hfr; done)

theorem PP.preU_of {s : Shared} {c : Nat} {pp : PP} (hc : s.cells c ≠ none)
    (hfr : ∀ lp, pp.lp? = some lp → lp.isFr = false) : pp.preU s c := by
  cases pp <;> first | trivial | exact LP.preU_of hc (hfr _ rfl)

theorem CP.preU_of {s : Shared} {c : Nat} {cp : CP} (hc : s.cells c ≠ none)
    (hfr : ∀ lp, cp.lp? = some lp → lp.isFr = false) : cp.preU s c := by
  cases cp <;> first | trivial | exact hc | exact LP.preU_of hc (hfr _ rfl) | exact PP.preU_of hc hfr

theorem BusyInv.cell_exists {N T : Nat} {st : State} (hb : BusyInv N T st) (t c : Nat)
    (h : (st.th t).op.cell? = some c) : st.sh.cells c ≠ none := by
  cases hcb : (st.th t).op.cons with
  | false => exact (hb.free t c h hcb).1
  | true =>
    -- the destroyer of a container still finds its content in it
    cases hop : (st.th t).op with
    | cinto c0 x p pp =>
      rw [hop] at h; cases h
      rw [hb.ccell t _ p (Or.inl ⟨x, pp, hop⟩)]; exact Option.some_ne_none _
    | dropc c0 p pp =>
      rw [hop] at h; cases h
      rw [hb.ccell t _ p (Or.inr ⟨pp, hop⟩)]; exact Option.some_ne_none _
    | dropcDec c0 p =>
      rw [hop] at h; cases h
      rw [hb.cdec t _ p hop]; exact Option.some_ne_none _
    | _ => rw [hop] at hcb; cases hcb

theorem OpSt.preU_of {s : Shared} {op : OpSt} (hc : ∀ c, op.cell? = some c → s.cells c ≠ none)
    (hfr : ∀ lp, op.lp? = some lp → lp.isFr = false)
    (hat : ∀ c out tries cur, op = .rcu c out tries (.attempt cur) → cur.ptr ≠ 0 → (s.heap cur.ptr).live = true) :
    op.preU s := by
  cases op with
  | load c _ ld | loadFull c _ ld => exact LP.preU_of (hc c rfl) (hfr _ rfl)
  | swapPay c _ _ _ pp | cinto c _ _ pp | dropc c _ pp => exact PP.preU_of (hc c rfl) hfr
  | cas c cur keep curPtr new g cp => exact CP.preU_of (hc c rfl) hfr
  | rcu c out tries rp =>
    cases rp with
    | load ld => exact LP.preU_of (hc c rfl) (hfr _ rfl)
    | cas cur x cp => exact CP.preU_of (hc c rfl) hfr
    | attempt cur => exact hat c out tries cur rfl
    | _ => trivial
  | _ => trivial

/-- **the next step raises no fault** — whatever thread takes it, whatever it does: along every
    execution that satisfies the ledger's assumptions and has raised no fault so far -/
theorem env_step_no_fault (K N T : Nat) (hK : 0 < K) (cfg : Cfg) (progs : Nat → List (String × Op))
    (sched : List (Nat × Bool)) (he : EnvRun0 K N T (State.initial cfg progs) sched)
    (hf : (run (State.initial cfg progs) sched).sh.fault = none) (t : Nat) (ht : t < T) (b : Bool)
    (hnext : ∀ txt o rest, ((run (State.initial cfg progs) sched).th t).prog = (txt, o) :: rest → o.below N) :
    (microStep (run (State.initial cfg progs) sched) t b).1.sh.fault = none := by
  by_cases hidle : ((run (State.initial cfg progs) sched).th t).op = .idle
  · -- the start of an operation: only a dereference can raise a fault
    cases hp : ((run (State.initial cfg progs) sched).th t).prog with
    | nil => rw [microStep_idle_nil _ t b hidle hp]; exact hf
    | cons x rest =>
      obtain ⟨txt, o⟩ := x
      by_cases hg : ∃ g, o = .gderef g
      · obtain ⟨g, rfl⟩ := hg
        exact gderef_no_fault_env K N T hK cfg progs sched he hf t g (hnext txt _ rest hp) b txt rest hidle hp
      · rw [microStep_idle_cons _ t b hidle hp, beginOp_fault _ t o (fun g e => hg ⟨g, e⟩)]; exact hf
  · cases htc : ((run (State.initial cfg progs) sched).th t).op.touch with
    | some a =>
      exact count_step_no_fault_all K N T hK cfg progs sched he hf a (touch_nonnull ⟨cfg, progs, sched, rfl⟩ t a htc)
        t ht b htc
    | none =>
      -- no count is touched: nothing but an assertion can be raised, and no assertion fires
      obtain ⟨L, hL⟩ := (HazHAll.initial N T cfg progs).run sched he hf
      have hU := microStep_uf _ t b hidle htc
        (OpSt.preU_of (fun c hc => hL.d.busy.cell_exists t c hc)
          (fun lp hlp => noFr_of_env K N T cfg progs sched he t lp hlp)
          (fun c out tries cur hop hp =>
            rcu_closure_value_alive K N T hK cfg progs sched he hf t ht c out tries cur hp hop)) hf
      cases hq : (microStep (run (State.initial cfg progs) sched) t b).1.sh.fault with
      | none => rfl
      | some f => exact nomatch (hU f hq).symm.trans (no_assertion_fires ⟨cfg, progs, sched, rfl⟩ hf t b f hq)

/-- **no execution that satisfies the ledger's assumptions ever raises a fault** — no
    use-after-free, no double free, no assertion or `expect` of the crate, no stuck state: for any
    number of threads below `T`, any programs over registers and containers below `N`, any schedule,
    as long as the program discipline holds (registers are not raced on, containers are created on
    fresh cells), the pool has room, at most `K` nodes are linked and no hand-over succeeds. -/
theorem env_run_fault_free (K N T : Nat) (hK : 0 < K) (cfg : Cfg) (progs : Nat → List (String × Op))
    (sched : List (Nat × Bool)) (he : EnvRun0 K N T (State.initial cfg progs) sched) :
    (run (State.initial cfg progs) sched).sh.fault = none := by
  revert he
  refine list_snoc_induction (fun sched => EnvRun0 K N T (State.initial cfg progs) sched →
    (run (State.initial cfg progs) sched).sh.fault = none) (fun _ => rfl) (fun pre x ih he => ?_) sched
  obtain ⟨t, b⟩ := x
  obtain ⟨h1, ht, hok, _⟩ := EnvRun0.prefix he
  rw [run_snoc]
  exact env_step_no_fault K N T hK cfg progs pre h1 (ih h1) t ht b (fun txt o rest hp => (hok.next txt o rest hp).1)

end M
