import ArcSwapModel.Inv.AcctWf

/-!
# Node indices stay below `nNodes`; nodes beyond it stay untouched

What `microStep_cons` assumes about nodes — the stepping thread's node index is below `K`, nodes that
do not exist yet have no occupied slot — follows from flow facts proved invariant here: a thread's
node, once set, is a node that exists; a load past its first steps has its node set; slots are
written only in the thread's own node; a node index handed out by `Node::get` exists (a node that
does not exist yet looks `USED`, so it is never claimed).

Every step lemma has the same shape: the next program counter is `okN` in the next state, and the next
state extends the old one (`NodesExt`: it is `NodesOk` again and has at least as many nodes).  The steps
that host no other machine write a node in one of a few ways, each of which extends (`NodesExt.setFault`
… `NodesExt.setNode_lt`), and lead to a state that hosts nothing, so one argument serves them all.
-/

namespace M
open Consts

-- The constants are read from the generated syntax trees; unfolding one (which `split` and `exact` attempt
-- on goals that compare with it) is slow, and nothing here depends on their values beyond `Consts.*_distinct`.
attribute [local irreducible] Consts.slotCnt Consts.genStep Consts.nodeUsed Consts.nodeUnused Consts.nodeCooldown
  Consts.nodeChecking

/-- nodes that do not exist yet look `USED` (part of `OwnInv`) -/
def InUseBeyond (s : Shared) : Prop := ∀ n, s.nNodes ≤ n → (s.nodes n).inUse = nodeUsed

structure NodesOk (s : Shared) : Prop where
  inUse : InUseBeyond s
  slots : Beyond s

theorem NodesOk.of_nodes {s s' : Shared} (h : NodesOk s) (hn : s'.nodes = s.nodes) (hk : s'.nNodes = s.nNodes) :
    NodesOk s' :=
  ⟨fun n hm => hn ▸ h.inUse n (hk ▸ hm), fun n hm => hn ▸ h.slots n (hk ▸ hm)⟩

theorem NodesOk.lt_of_inUse {s : Shared} (h : NodesOk s) {n : Nat} (hne : (s.nodes n).inUse ≠ nodeUsed) :
    n < s.nNodes :=
  Nat.lt_of_not_le fun hle => hne (h.inUse n hle)

structure NodesExt (s s' : Shared) : Prop where
  ok : NodesOk s'
  le : s.nNodes ≤ s'.nNodes

theorem NodesOk.ext {s : Shared} (h : NodesOk s) : NodesExt s s := ⟨h, Nat.le_refl _⟩

namespace NodesExt
variable {s x x' : Shared} (e : NodesExt s x)
include e

theorem of_nodes (hn : x'.nodes = x.nodes) (hk : x'.nNodes = x.nNodes) : NodesExt s x' :=
  ⟨e.ok.of_nodes hn hk, hk ▸ e.le⟩

theorem setFault (f : Fault) : NodesExt s (x.setFault f) := e.of_nodes (setFault_nodes ..) (setFault_nNodes ..)

theorem orFault (c : Prop) [Decidable c] (f : Fault) : NodesExt s (if c then x else x.setFault f) :=
  e.of_nodes (ite_setFault_nodes ..) (ite_setFault_nNodes ..)

theorem dbg (n : Nat) (site : String) : NodesExt s (dbgInUse x n site) :=
  e.of_nodes (dbgInUse_nodes ..) (dbgInUse_nNodes ..)

theorem inc (a : Nat) : NodesExt s (incObj x a).1 := e.of_nodes (incObj_nodes ..) (incObj_nNodes ..)

theorem dec (a : Nat) : NodesExt s (decObj x a).1 := e.of_nodes (decObj_nodes ..) (decObj_nNodes ..)

/-- an update of a node that keeps `in_use` and keeps empty slots empty (a pay-off, a control
    word, a writer count, …) — of any node, existing or not -/
theorem setNode_pres (n : Nat) (f : Node → Node) (hi : ∀ nd, (f nd).inUse = nd.inUse)
    (hs : ∀ nd, ((∀ i, nd.fast i = .none) ∧ nd.hslot = .none) → ((∀ i, (f nd).fast i = .none) ∧ (f nd).hslot = .none)) :
    NodesExt s (x.setNode n f) := by
  refine ⟨⟨fun m hm => ?_, fun m hm => ?_⟩, e.le⟩ <;> rw [setNode_nodes] <;> split
  · subst m; rw [hi]; exact e.ok.inUse n hm
  · exact e.ok.inUse m hm
  · subst m; exact hs _ (e.ok.slots n hm)
  · exact e.ok.slots m hm

theorem setNode_other (n : Nat) (f : Node → Node)
    (hf : ∀ nd, (f nd).inUse = nd.inUse ∧ (f nd).fast = nd.fast ∧ (f nd).hslot = nd.hslot := by
      exact fun _ => ⟨rfl, rfl, rfl⟩) : NodesExt s (x.setNode n f) :=
  e.setNode_pres n f (fun nd => (hf nd).1) fun nd hh => by rw [(hf nd).2.1, (hf nd).2.2]; exact hh

theorem clearFast (n j : Nat) : NodesExt s (x.setNode n fun nd => { nd with fast := upd nd.fast j .none }) :=
  e.setNode_pres n _ (fun _ => rfl) fun nd hh =>
    ⟨fun i => by by_cases hi : i = j <;> simp [upd, hi, hh.1 i], hh.2⟩

theorem clearHslot (n : Nat) : NodesExt s (x.setNode n fun nd => { nd with hslot := .none }) :=
  e.setNode_pres n _ (fun _ => rfl) fun _ hh => ⟨hh.1, rfl⟩

theorem setNode_lt (n : Nat) (f : Node → Node) (hn : n < x.nNodes) : NodesExt s (x.setNode n f) := by
  have hne : ∀ m, x.nNodes ≤ m → m ≠ n := fun m hm => by omega
  exact ⟨⟨fun m hm => by rw [setNode_nodes_other _ _ _ _ (hne m hm)]; exact e.ok.inUse m hm,
    fun m hm => by rw [setNode_nodes_other _ _ _ _ (hne m hm)]; exact e.ok.slots m hm⟩, e.le⟩

theorem newNode : NodesExt s { x with nNodes := x.nNodes + 1, nodes := upd x.nodes x.nNodes { spaceOffer := x.nNodes } } := by
  refine ⟨⟨fun m hm => ?_, fun m hm => ?_⟩, Nat.le_succ_of_le e.le⟩ <;>
    have hm : x.nNodes + 1 ≤ m := hm
  · show (upd x.nodes x.nNodes _ m).inUse = nodeUsed
    rw [upd_other _ _ _ _ (by omega)]; exact e.ok.inUse m (by omega)
  · show (∀ i, (upd x.nodes x.nNodes _ m).fast i = .none) ∧ (upd x.nodes x.nNodes _ m).hslot = .none
    rw [upd_other _ _ _ _ (by omega)]; exact e.ok.slots m (by omega)

end NodesExt

theorem stepGD_nodes (s : Shared) (gd : GD) (h : NodesOk s) : NodesExt s (stepGD s gd).1 := by
  cases gd <;> simp only [stepGD] <;> (try split) <;>
    first | exact h.ext | exact h.ext.dec _ | exact h.ext.clearFast _ _

theorem stepGI_nodes (s : Shared) (gi : GI) (h : NodesOk s) : NodesExt s (stepGI s gi).1 := by
  cases gi <;> simp only [stepGI] <;> (try split) <;>
    first | exact h.ext | exact h.ext.dec _ | exact h.ext.inc _ | exact h.ext.clearFast _ _

def NodeLt (s : Shared) (l : Locals) : Prop := ∀ n, l.node = some n → n < s.nNodes

theorem NodeLt.mono {s s' : Shared} {l : Locals} (h : NodeLt s l) (hm : s.nNodes ≤ s'.nNodes) : NodeLt s' l :=
  fun n hn => Nat.lt_of_lt_of_le (h n hn) hm

theorem NodeLt.some {s : Shared} {l : Locals} {n : Nat} (h : n < s.nNodes) : NodeLt s { l with node := some n } :=
  fun _ hm => Option.some.inj hm ▸ h

theorem getD_lt {l : Locals} {s : Shared} (h1 : ∀ n, l.node = some n → n < s.nNodes) (h2 : l.node.isSome = true) :
    l.node.getD 0 < s.nNodes := by
  cases hn : l.node with
  | none => rw [hn] at h2; cases h2
  | some n => exact h1 n hn

def NG.okN (s : Shared) : NG → Prop
  | .done n => n < s.nNodes
  | .allocCas (some k) _ => k < s.nNodes
  | _ => True

theorem NG.okN_mono {s s' : Shared} (hm : s.nNodes ≤ s'.nNodes) (ng : NG) (h : ng.okN s) : ng.okN s' := by
  cases ng with
  | done n => exact Nat.lt_of_lt_of_le h hm
  | allocCas me x => cases me with
    | some k => exact Nat.lt_of_lt_of_le h hm
    | none => trivial
  | _ => trivial

theorem stepNG_okN (s : Shared) (b : Bool) (ng : NG) (h : NodesOk s) (hk : ng.okN s) :
    (stepNG s b ng).2.1.okN (stepNG s b ng).1 ∧ NodesExt s (stepNG s b ng).1 := by
  have hd := Consts.node_states_distinct
  -- `in_use` is written only where it does not read `USED`: in a node that exists
  have inUse : ∀ {n v : Nat}, (s.nodes n).inUse = v → v ≠ nodeUsed → ∀ w,
      NodesExt s (s.setNode n fun nd => { nd with inUse := w }) :=
    fun hv hne w => h.ext.setNode_lt _ _ (h.lt_of_inUse (hv ▸ hne))
  cases ng with
  | trav => simp only [stepNG]; exact ⟨by split <;> trivial, h.ext⟩
  | cc0 n => simp only [stepNG]; split <;> first | exact ⟨trivial, h.ext⟩ | exact ⟨trivial, inUse ‹_› hd.2.1.symm _⟩
  | cc1 n => exact ⟨trivial, h.ext⟩
  | cc2 n idle =>
    simp only [stepNG]; split <;>
      first | exact ⟨trivial, h.ext.setFault _⟩ | exact ⟨trivial, inUse ‹_› Consts.node_checking_distinct.1 _⟩
  | claim n =>
    simp only [stepNG]; split
    · exact ⟨h.lt_of_inUse (‹_ = nodeUnused› ▸ hd.1), inUse ‹_› hd.1 _⟩
    · exact ⟨by unfold NG.afterNode; split <;> trivial, h.ext⟩
  | allocLoad => exact ⟨trivial, h.ext⟩
  | allocCas me x =>
    cases me with
    | some k =>
      have e := h.ext.setNode_other k fun nd => { nd with next := x }
      simp only [stepNG]; split <;> first | exact ⟨hk, e⟩ | exact ⟨hk, e.of_nodes rfl rfl⟩
    | none =>
      have e := h.ext.newNode.setNode_other s.nNodes fun nd => { nd with next := x }
      simp only [stepNG]; split <;>
        first | exact ⟨Nat.lt_succ_self _, e⟩ | exact ⟨Nat.lt_succ_self _, e.of_nodes rfl rfl⟩
  | done n => exact ⟨hk, h.ext⟩

def CD.okN (s : Shared) : CD → Prop
  | .res n | .swap n | .rel n => n < s.nNodes
  | .done => True

theorem CD.okN_mono {s s' : Shared} (hm : s.nNodes ≤ s'.nNodes) (cd : CD) (h : cd.okN s) : cd.okN s' := by
  cases cd <;> first | exact Nat.lt_of_lt_of_le h hm | exact True.intro

theorem stepCD_okN (s : Shared) (cd : CD) (h : NodesOk s) (hk : cd.okN s) :
    (stepCD s cd).2.1.okN (stepCD s cd).1 ∧ NodesExt s (stepCD s cd).1 := by
  cases cd with
  | res n =>
    have e := h.ext.setNode_lt n (fun nd => { nd with writers := (s.nodes n).writers + 1 }) hk
    exact ⟨CD.okN_mono e.le (.swap n) hk, e⟩
  | swap n =>
    have e : NodesExt s (stepCD s (.swap n)).1 := by simp only [stepCD]; exact (h.ext.setNode_lt n _ hk).orFault _ _
    exact ⟨CD.okN_mono e.le (.rel n) hk, e⟩
  | rel n => exact ⟨trivial, h.ext.setNode_lt n (fun nd => { nd with writers := (s.nodes n).writers - 1 }) hk⟩
  | done => exact ⟨trivial, h.ext⟩

/-- a load in its first steps: its thread's node need not be set yet -/
def LP.early : LP → Bool
  | .start | .get _ => true
  | _ => false

def LP.okN (s : Shared) (l : Locals) (lp : LP) : Prop :=
  (∀ n, l.node = some n → n < s.nNodes) ∧ (lp.early = false → l.node.isSome = true) ∧
  (match lp with
    | .get ng | .reget ng => ng.okN s
    | .cool cd => cd.okN s
    | _ => True)

theorem LP.okN_lt {s : Shared} {l : Locals} {lp : LP} (h : lp.okN s l) : NodeLt s l := h.1

theorem LP.okN_start {s : Shared} {l : Locals} (h : NodeLt s l) : LP.okN s l .start := ⟨h, nofun, trivial⟩

theorem LP.okN_mono {s s' : Shared} (hm : s.nNodes ≤ s'.nNodes) (l : Locals) (lp : LP) (h : lp.okN s l) :
    lp.okN s' l := by
  refine ⟨NodeLt.mono h.1 hm, h.2.1, ?_⟩
  cases lp with
  | get ng | reget ng => exact NG.okN_mono hm _ h.2.2
  | cool cd => exact CD.okN_mono hm _ h.2.2
  | _ => trivial

theorem LP.afterGet_okN (cfg : Cfg) {s : Shared} {l : Locals} {ng : NG} (hlt : NodeLt s l) (h : ng.okN s) :
    (LP.afterGet cfg ng).okN s (NG.locals l ng) := by
  cases ng with
  | done n => exact ⟨NodeLt.some h, fun _ => rfl, by simp only [LP.afterGet]; cases cfg.useFast <;> trivial⟩
  | _ => exact ⟨hlt, nofun, h⟩

theorem LP.afterReget_okN {s : Shared} {l : Locals} {ng : NG} (hlt : NodeLt s l) (hset : l.node.isSome = true)
    (h : ng.okN s) : (LP.afterReget ng).okN s (NG.locals l ng) := by
  cases ng with
  | done n => exact ⟨NodeLt.some h, fun _ => rfl, trivial⟩
  | _ => exact ⟨hlt, fun _ => hset, h⟩

theorem LP.afterCool_okN {s : Shared} {l : Locals} {cd : CD} (hlt : NodeLt s l) (hset : l.node.isSome = true)
    (h : cd.okN s) : (LP.afterCool cd).okN s l := by
  cases cd <;> first | exact ⟨hlt, fun _ => hset, h⟩ | exact ⟨hlt, fun _ => hset, trivial⟩

theorem stepLP_okN (cfg : Cfg) (c : Nat) (s : Shared) (l : Locals) (b : Bool) (lp : LP)
    (h : NodesOk s) (hk : lp.okN s l) :
    (stepLP cfg c s l b lp).2.2.1.okN (stepLP cfg c s l b lp).1 (stepLP cfg c s l b lp).2.1 ∧
      NodesExt s (stepLP cfg c s l b lp).1 := by
  obtain ⟨hlt, hset, hsub⟩ := hk
  have hlt : NodeLt s l := hlt
  -- A step that keeps the thread's node and leads to a state `lp'` that hosts nothing.  For a given `lp'` past
  -- the first steps of a load, the last three arguments are found by computation.
  have keep : ∀ {s' : Shared} {lp' : LP} (l' : Locals), NodesExt s s' → (hl : l'.node = l.node := by rfl) →
      (hm : match lp' with | .get ng | .reget ng => ng.okN s' | .cool cd => cd.okN s' | _ => True := by exact True.intro) →
      (he : lp'.early = false → l.node.isSome = true := by exact fun _ => hset rfl) →
      lp'.okN s' l' ∧ NodesExt s s' :=
    fun l' e hl hm he => ⟨⟨hl ▸ hlt.mono e.le, hl ▸ he, hm⟩, e⟩
  have e0 := h.ext
  cases lp with
  | get ng =>
    obtain ⟨h1, e⟩ := stepNG_okN s b ng h hsub
    rw [stepLP_get]; exact ⟨LP.afterGet_okN cfg (hlt.mono e.le) h1, e⟩
  | reget ng =>
    obtain ⟨h1, e⟩ := stepNG_okN s b ng h hsub
    rw [stepLP_reget]; exact ⟨LP.afterReget_okN (hlt.mono e.le) (hset rfl) h1, e⟩
  | cool cd =>
    obtain ⟨h1, e⟩ := stepCD_okN s cd h hsub
    rw [stepLP_cool]; exact ⟨LP.afterCool_okN (hlt.mono e.le) (hset rfl) h1, e⟩
  | start =>
    simp only [stepLP]; split
    · exact keep l e0 rfl trivial nofun
    · split <;> exact keep l e0 rfl trivial fun _ => by rw [‹l.node = some _›]; rfl
  | nhDbg =>
    -- the node to cool down is the thread's own
    simp only [stepLP]; split
    · exact keep l (e0.setFault _)
    · have e := e0.dbg ‹Nat› "new_helping"
      split <;> first | exact keep l e rfl (Nat.lt_of_lt_of_le (hlt _ ‹_›) e.le) | exact keep l e
  | pswap p idx =>
    -- a debt is written into the thread's own node, which exists
    simp only [stepLP]; exact keep _ ((e0.setNode_lt _ _ (getD_lt hlt (hset rfl))).orFault _ _)
  | f4 g cand =>
    simp only [stepLP]; exact keep _ ((e0.setNode_lt _ _ (getD_lt hlt (hset rfl))).orFault _ _)
  | probe p i | done p d => simp only [stepLP] <;> (repeat' split) <;> exact keep _ e0
  | a1 | a3 p idx | f3 g | fr1 cand j =>
    simp only [stepLP] <;> (repeat' split) <;> first | exact keep _ e0 | exact keep _ (e0.setFault _)
  | nfDbg p | chDbg g cand =>
    simp only [stepLP] <;> split <;> first | exact keep _ (e0.dbg _ _) | exact keep _ (e0.setFault _)
  | a4dec p | fokDec cand | frDec cand r => exact keep _ (e0.dec _)
  | fokInc cand => exact keep _ (e0.inc _)
  | f1 => simp only [stepLP]; exact keep _ (e0.setNode_other _ fun nd => { nd with activeAddr := some c })
  | fr2 cand j r => simp only [stepLP]; exact keep _ (e0.setNode_other _ fun nd => { nd with spaceOffer := j })
  | f2 g =>
    simp only [stepLP]; exact keep _ ((e0.setNode_other _ fun nd => { nd with control := .gen g }).orFault _ _)
  | f5 g cand =>
    have e := e0.setNode_other (l.node.getD 0) fun nd => { nd with control := .idle }
    simp only [stepLP]; (repeat' split) <;> first | exact keep _ e | exact keep _ (e.setFault _)
  | a4 p idx =>
    simp only [stepLP]; (repeat' split) <;> first | exact keep _ e0 | exact keep _ (e0.clearFast _ _)
  | fokPay cand | frPay cand r =>
    simp only [stepLP] <;> (repeat' split) <;> first | exact keep _ e0 | exact keep _ (e0.clearHslot _)

def PP.okN (s : Shared) (l : Locals) : PP → Prop
  | .get ng => (∀ n, l.node = some n → n < s.nNodes) ∧ ng.okN s
  | .hload _ ld => ld.okN s l
  | _ => ∀ n, l.node = some n → n < s.nNodes

theorem PP.okN_lt {s : Shared} {l : Locals} {pp : PP} (h : pp.okN s l) : NodeLt s l := by
  cases pp <;> first | exact h | exact h.1

theorem PP.okN_mono {s s' : Shared} (hm : s.nNodes ≤ s'.nNodes) (l : Locals) (pp : PP) (h : pp.okN s l) :
    pp.okN s' l := by
  cases pp with
  | get ng => exact ⟨NodeLt.mono h.1 hm, NG.okN_mono hm _ h.2⟩
  | hload x ld => exact LP.okN_mono hm l ld h
  | _ => exact NodeLt.mono h hm

theorem PP.dispatch_okN {s : Shared} {l : Locals} (hlt : NodeLt s l) (h : HL) : (PP.dispatch h).okN s l := by
  unfold PP.dispatch; split <;> exact hlt

theorem PP.nextSlot_okN {s : Shared} {l : Locals} (hlt : NodeLt s l) (n j : Nat) : (PP.nextSlot n j).okN s l := by
  unfold PP.nextSlot; split <;> exact hlt

theorem PP.afterGet_okN (p : Nat) {s : Shared} {l : Locals} {ng : NG} (hlt : NodeLt s l) (h : ng.okN s) :
    (PP.afterGet p ng).okN s (NG.locals l ng) := by
  cases ng with
  | done n => simp only [PP.afterGet]; split <;> exact NodeLt.some h
  | _ => exact ⟨hlt, h⟩

theorem PP.afterLoad_okN (x : HL) {s : Shared} {l : Locals} {ld : LP} (h : ld.okN s l) : (PP.afterLoad x ld).okN s l := by
  cases ld with
  | done r d => simp only [PP.afterLoad]; split <;> exact h.1
  | _ => exact h

theorem PP.afterInto_okN (x : HL) (r : Nat) {s : Shared} {l : Locals} (gi : GI) (hlt : NodeLt s l) :
    (PP.afterInto x r gi).okN s l := by
  cases gi <;> exact hlt

theorem stepPP_okN (cfg : Cfg) (p c : Nat) (s : Shared) (l : Locals) (b : Bool) (pp : PP)
    (h : NodesOk s) (hk : pp.okN s l) :
    (stepPP cfg p c s l b pp).2.2.1.okN (stepPP cfg p c s l b pp).1 (stepPP cfg p c s l b pp).2.1 ∧
      NodesExt s (stepPP cfg p c s l b pp).1 := by
  have hlt := PP.okN_lt hk
  have e0 := h.ext
  have flat : ∀ {s' : Shared} {pp' : PP}, NodesExt s s' → (NodeLt s' l → pp'.okN s' l) → pp'.okN s' l ∧ NodesExt s s' :=
    fun e hp => ⟨hp (hlt.mono e.le), e⟩
  have start : ∀ {s' : Shared} (x : HL), NodeLt s' l → (PP.hload x .start).okN s' l := fun _ => LP.okN_start
  cases pp with
  | get ng =>
    obtain ⟨h1, e⟩ := stepNG_okN s b ng h hk.2
    rw [stepPP_get]; exact ⟨PP.afterGet_okN p (hlt.mono e.le) h1, e⟩
  | hload x ld =>
    obtain ⟨h1, e⟩ := stepLP_okN cfg c s l b ld h hk
    rw [stepPP_hload]; exact ⟨PP.afterLoad_okN x h1, e⟩
  | hinto x r gi =>
    have e := stepGI_nodes s gi h
    rw [stepPP_hinto]; exact ⟨PP.afterInto_okN x r _ (hlt.mono e.le), e⟩
  | start => simp only [stepPP]; (repeat' split) <;> first | exact ⟨⟨hlt, trivial⟩, e0⟩ | exact ⟨hlt, e0⟩
  | slot n j =>
    have e : NodesExt s (stepPP cfg p c s l b (.slot n j)).1 := by
      simp only [stepPP]
      by_cases hj : j < slotCnt <;> simp only [hj, if_true, if_false] <;> (repeat' split) <;>
        first | exact e0 | exact e0.clearFast _ _ | exact e0.clearHslot _
    obtain ⟨e1, e2⟩ := stepPP_slot_next cfg p c s l b n j
    rw [e1]; rcases e2 with e2 | e2 <;> rw [e2] <;> first | exact flat e (PP.nextSlot_okN · n j) | exact flat e id
  | trav | h4 x r | h5 x r t | hend x | fin | done =>
    simp only [stepPP] <;> (repeat' split) <;> exact ⟨hlt, e0⟩
  | h1 x => exact ⟨PP.dispatch_okN hlt _, e0⟩
  | h3 x => simp only [stepPP]; split <;> first | exact ⟨hlt, e0⟩ | exact ⟨PP.dispatch_okN hlt _, e0⟩
  | inc => exact flat (e0.inc p) id
  | slotInc n j => exact flat (e0.inc p) (PP.nextSlot_okN · n j)
  | dec => exact flat (e0.dec p) id
  | hdrop x r => exact flat (e0.dec r) (PP.dispatch_okN · x)
  | hDbg0 x => exact flat (e0.dbg _ _) id
  | hDbg1 x => simp only [stepPP]; exact flat (e0.orFault _ _) id
  | h2 x =>
    simp only [stepPP]; (repeat' split) <;>
      first | exact flat (e0.setFault _) id | exact flat (e0.setFault _) (start x) | exact ⟨hlt, e0⟩ | exact ⟨start x hlt, e0⟩
  | res n =>
    have e := e0.setNode_other n fun nd => { nd with writers := (s.nodes n).writers + 1 }
    simp only [stepPP]; split <;> first | exact flat e id | exact flat (e.setFault _) id
  | hres x =>
    simp only [stepPP]
    exact flat (e0.setNode_other _ fun nd => { nd with writers := (s.nodes x.own).writers + 1 }) (start _)
  | h6 x r t m => simp only [stepPP]; exact flat (e0.setNode_other _ fun nd => { nd with envelope := .ptr r }) id
  | h7 x r t m =>
    have e := e0.setNode_other x.who fun nd => { nd with control := .env m }
    simp only [stepPP]; (repeat' split) <;>
      first | exact flat e id | exact ⟨hlt, e0⟩ | exact ⟨PP.dispatch_okN hlt _, e0⟩
  | h8 x t => simp only [stepPP]; exact flat (e0.setNode_other _ fun nd => { nd with spaceOffer := t }) id
  | hrel x =>
    simp only [stepPP]; exact flat (e0.setNode_other _ fun nd => { nd with writers := (s.nodes x.own).writers - 1 }) id
  | rel n =>
    simp only [stepPP]; split <;>
      exact flat (e0.setNode_other _ fun nd => { nd with writers := (s.nodes n).writers - 1 }) id

def CP.okN (s : Shared) (l : Locals) : CP → Prop
  | .load ld => ld.okN s l
  | .pay _ pp => pp.okN s l
  | _ => NodeLt s l

theorem CP.okN_lt {s : Shared} {l : Locals} {cp : CP} (h : cp.okN s l) : NodeLt s l := by
  cases cp <;> first | exact h | exact LP.okN_lt h | exact PP.okN_lt h

theorem CP.okN_mono {s s' : Shared} (hm : s.nNodes ≤ s'.nNodes) (l : Locals) (cp : CP) (h : cp.okN s l) : cp.okN s' l := by
  cases cp with
  | load ld => exact LP.okN_mono hm l ld h
  | pay old pp => exact PP.okN_mono hm l pp h
  | _ => exact NodeLt.mono h hm

theorem CP.afterLoad_okN (cur new : Nat) {s : Shared} {l : Locals} {ld : LP} (h : ld.okN s l) :
    (CP.afterLoad cur new ld).okN s l := by
  cases ld with
  | done p d => simp only [CP.afterLoad]; (repeat' split) <;> exact h.1
  | _ => exact h

theorem CP.afterPay_okN (old : Guard) {s : Shared} {l : Locals} {pp : PP} (h : pp.okN s l) :
    (CP.afterPay old pp).okN s l := by
  cases pp <;> first | exact h | (simp only [CP.afterPay]; split <;> exact h)

theorem CP.afterDropOld_okN {s : Shared} {l : Locals} (gd : GD) (hlt : NodeLt s l) : (CP.afterDropOld gd).okN s l := by
  cases gd <;> first | exact hlt | exact LP.okN_start hlt

theorem stepCP_okN (cfg : Cfg) (c cur new : Nat) (s : Shared) (l : Locals) (b : Bool) (cp : CP)
    (h : NodesOk s) (hk : cp.okN s l) :
    (stepCP cfg c cur new s l b cp).2.2.1.okN (stepCP cfg c cur new s l b cp).1 (stepCP cfg c cur new s l b cp).2.1 ∧
      NodesExt s (stepCP cfg c cur new s l b cp).1 := by
  have hlt := CP.okN_lt hk
  have e0 := h.ext
  cases cp with
  | load ld =>
    obtain ⟨h1, e⟩ := stepLP_okN cfg c s l b ld h hk
    rw [stepCP_load]; exact ⟨CP.afterLoad_okN cur new h1, e⟩
  | pay old pp =>
    obtain ⟨h1, e⟩ := stepPP_okN cfg old.ptr c s l b pp h hk
    rw [stepCP_pay]; exact ⟨CP.afterPay_okN old h1, e⟩
  | dropOld gd =>
    have e := stepGD_nodes s gd h
    rw [stepCP_dropOld]; exact ⟨CP.afterDropOld_okN _ (hlt.mono e.le), e⟩
  | dropNew old => have e := e0.dec new; exact ⟨hlt.mono e.le, e⟩
  | decOld old => have e := e0.dec old.ptr; exact ⟨hlt.mono e.le, e⟩
  | cx old =>
    have ef := e0.setFault (.stuck "cas on a dropped container")
    simp only [stepCP]; (repeat' split) <;>
      first | exact ⟨hlt, e0.of_nodes rfl rfl⟩ | exact ⟨LP.okN_start hlt, e0⟩ | exact ⟨hlt, e0⟩ | exact ⟨hlt.mono ef.le, ef⟩
  | done old => exact ⟨hlt, e0⟩

def RP.okN (s : Shared) (l : Locals) : RP → Prop
  | .load ld => ld.okN s l
  | .cas _ _ cp => cp.okN s l
  | _ => NodeLt s l

theorem RP.okN_lt {s : Shared} {l : Locals} {rp : RP} (h : rp.okN s l) : NodeLt s l := by
  cases rp <;> first | exact h | exact LP.okN_lt h | exact CP.okN_lt h

theorem RP.okN_mono {s s' : Shared} (hm : s.nNodes ≤ s'.nNodes) (l : Locals) (rp : RP) (h : rp.okN s l) : rp.okN s' l := by
  cases rp with
  | load ld => exact LP.okN_mono hm l ld h
  | cas cur a cp => exact CP.okN_mono hm l cp h
  | _ => exact NodeLt.mono h hm

theorem RP.afterLoad_okN {s : Shared} {l : Locals} {ld : LP} (h : ld.okN s l) : (RP.afterLoad ld).okN s l := by
  cases ld <;> first | exact h | exact h.1

theorem RP.afterCas_okN (cur : Guard) (a : Nat) {s : Shared} {l : Locals} {cp : CP} (h : cp.okN s l) :
    (RP.afterCas cur a cp).okN s l := by
  cases cp with
  | done prev => simp only [RP.afterCas]; (repeat' split) <;> exact h
  | _ => exact h

theorem RP.afterIntoPrev_okN (cur prev : Guard) {s : Shared} {l : Locals} (gi : GI) (hlt : NodeLt s l) :
    (RP.afterIntoPrev cur prev gi).okN s l := by
  cases gi <;> first | exact hlt | (simp only [RP.afterIntoPrev]; split <;> exact hlt)

theorem stepRP_okN (cfg : Cfg) (c : Nat) (s : Shared) (l : Locals) (b : Bool) (tries : Nat) (rp : RP)
    (h : NodesOk s) (hk : rp.okN s l) :
    (stepRP cfg c s l b tries rp).2.2.1.okN (stepRP cfg c s l b tries rp).1 (stepRP cfg c s l b tries rp).2.1 ∧
      NodesExt s (stepRP cfg c s l b tries rp).1 := by
  have hlt := RP.okN_lt hk
  cases rp with
  | load ld =>
    obtain ⟨h1, e⟩ := stepLP_okN cfg c s l b ld h hk
    rw [stepRP_load]; exact ⟨RP.afterLoad_okN h1, e⟩
  | cas cur a cp =>
    obtain ⟨h1, e⟩ := stepCP_okN cfg c cur.ptr a s l b cp h hk
    rw [stepRP_cas]; exact ⟨RP.afterCas_okN cur a h1, e⟩
  | intoPrev cur prev gi =>
    have e := stepGI_nodes s gi h
    rw [stepRP_intoPrev]; exact ⟨RP.afterIntoPrev_okN cur prev _ (hlt.mono e.le), e⟩
  | dropCur res gd =>
    have e := stepGD_nodes s gd h
    rw [stepRP_dropCur]; exact ⟨by cases (stepGD s gd).2.1 <;> exact hlt.mono e.le, e⟩
  | dropCurLoop prev gd =>
    have e := stepGD_nodes s gd h
    rw [stepRP_dropCurLoop]; exact ⟨by cases (stepGD s gd).2.1 <;> exact hlt.mono e.le, e⟩
  | attempt cur =>
    have e : NodesExt s (stepRP cfg c s l b tries (.attempt cur)).1 := by
      simp only [stepRP]; split <;> first | exact (h.ext.setFault _).of_nodes rfl rfl | exact h.ext.of_nodes rfl rfl
    exact ⟨LP.okN_start (hlt.mono e.le), e⟩
  | done r => exact ⟨hlt, h.ext⟩

def OpSt.okN (s : Shared) (l : Locals) : OpSt → Prop
  | .load _ _ ld | .loadFull _ _ ld => ld.okN s l
  | .swapPay _ _ _ _ pp | .cinto _ _ _ pp | .dropc _ _ pp => pp.okN s l
  | .cas _ _ _ _ _ _ cp => cp.okN s l
  | .rcu _ _ _ rp => rp.okN s l
  | .exitCool cd => NodeLt s l ∧ cd.okN s
  | _ => NodeLt s l

theorem OpSt.okN_lt {s : Shared} {l : Locals} {op : OpSt} (h : op.okN s l) : NodeLt s l := by
  cases op <;> first | exact h | exact LP.okN_lt h | exact PP.okN_lt h | exact CP.okN_lt h | exact RP.okN_lt h | exact h.1

theorem OpSt.okN_mono {s s' : Shared} (hm : s.nNodes ≤ s'.nNodes) (l : Locals) (op : OpSt) (h : op.okN s l) :
    op.okN s' l := by
  cases op with
  | load c g ld | loadFull c g ld => exact LP.okN_mono hm l ld h
  | swapPay c o p i pp | cinto c x p pp | dropc c p pp => exact PP.okN_mono hm l pp h
  | cas c cur k cp n g x => exact CP.okN_mono hm l x h
  | rcu c o tr rp => exact RP.okN_mono hm l rp h
  | exitCool cd => exact ⟨NodeLt.mono h.1 hm, CD.okN_mono hm cd h.2⟩
  | _ => exact NodeLt.mono h hm

theorem OpSt.core_ext (cfg : Cfg) (s : Shared) (l : Locals) (b : Bool) (op : OpSt) (h : NodesOk s) (hk : op.okN s l) :
    NodesExt s (op.core cfg s l b) := by
  cases op with
  | load c g ld | loadFull c g ld => exact (stepLP_okN cfg c s l b ld h hk).2
  | loadFullInto c x r gi | ginto x r gi => exact stepGI_nodes s gi h
  | dropg gd => exact stepGD_nodes s gd h
  | exitCool cd => exact (stepCD_okN s cd h hk.2).2
  | swapPay c o p i pp | cinto c x p pp | dropc c p pp => exact (stepPP_okN cfg p c s l b pp h hk).2
  | cas c cur k cp n g x => exact (stepCP_okN cfg c cp n s l b x h hk).2
  | rcu c o tr rp => exact (stepRP_okN cfg c s l b tr rp h hk).2
  | cloneh x y a => exact h.ext.inc a
  | droph a | swapDrop c a | dropcDec c a => exact h.ext.dec a
  | _ => exact h.ext

theorem OpSt.fresh.okN {s : Shared} {l : Locals} {op : OpSt} (hfr : op.fresh) (hlt : NodeLt s l) : op.okN s l := by
  cases op with
  | load c g ld | loadFull c g ld => cases hfr; exact LP.okN_start hlt
  | cas c cur keep curPtr new g cp => cases hfr; exact LP.okN_start hlt
  | rcu c out tries rp => cases hfr; exact LP.okN_start hlt
  | cinto c x p pp | dropc c p pp => cases hfr; exact hlt
  | _ => first | exact hlt | exact hfr.elim

theorem OpSt.next_okN (cfg : Cfg) (s : Shared) (l : Locals) (b : Bool) (op : OpSt) (hni : op ≠ .idle) (h : NodesOk s)
    (hk : op.okN s l) : (op.next cfg s l b).1.okN (op.core cfg s l b) (op.next cfg s l b).2 := by
  have hlt : NodeLt (op.core cfg s l b) l := (OpSt.okN_lt hk).mono (OpSt.core_ext cfg s l b op h hk).le
  cases op with
  | idle => exact absurd rfl hni
  | load c g ld | loadFull c g ld =>
    have h1 := (stepLP_okN cfg c s l b ld h hk).1
    simp only [OpSt.next, OpSt.core]
    generalize (stepLP cfg c s l b ld).2.2.1 = x at h1 ⊢
    split <;> first | exact h1 | exact LP.okN_lt h1 | (split <;> exact LP.okN_lt h1)
  | swapPay c out p isStore pp | cinto c x p pp | dropc c p pp =>
    have h1 := (stepPP_okN cfg p c s l b pp h hk).1
    simp only [OpSt.next, OpSt.core]
    generalize (stepPP cfg p c s l b pp).2.2.1 = x at h1 ⊢
    (repeat' split) <;> first | exact h1 | exact PP.okN_lt h1
  | cas c cur keep curPtr new g cp =>
    have h1 := (stepCP_okN cfg c curPtr new s l b cp h hk).1
    simp only [OpSt.next, OpSt.core]
    generalize (stepCP cfg c curPtr new s l b cp).2.2.1 = x at h1 ⊢
    split <;> first | exact h1 | exact CP.okN_lt h1
  | rcu c out tries rp =>
    have h1 := (stepRP_okN cfg c s l b tries rp h hk).1
    simp only [OpSt.next, OpSt.core]
    generalize (stepRP cfg c s l b tries rp).2.2.1 = x at h1 ⊢
    split <;> first | exact h1 | exact RP.okN_lt h1
  | exitCool cd =>
    have h1 := (stepCD_okN s cd h hk.2).1
    simp only [OpSt.next, OpSt.core] at hlt ⊢
    generalize (stepCD s cd).2.1 = x at h1 ⊢
    split <;> first | exact ⟨hlt, h1⟩ | exact nofun
  | _ =>
    -- these keep the thread's node and go on to a state that hosts nothing but a guard's pay-off
    simp only [OpSt.next, OpSt.core] at hlt ⊢ <;> (repeat' split) <;> exact hlt

theorem microStep_okN (st : State) (t : Nat) (b : Bool) (h : NodesOk st.sh)
    (hk : (st.th t).op.okN st.sh (st.th t).loc) :
    ((microStep st t b).1.th t).op.okN (microStep st t b).1.sh ((microStep st t b).1.th t).loc ∧
      NodesOk (microStep st t b).1.sh ∧ st.sh.nNodes ≤ (microStep st t b).1.sh.nNodes := by
  have hlt := OpSt.okN_lt hk
  by_cases hi : (st.th t).op = .idle
  · cases hp : (st.th t).prog with
    | nil =>
      simp only [microStep, hi, hp]
      refine ⟨?_, h, Nat.le_refl _⟩
      simp only [upd_same]; split <;> first | exact ⟨hlt, hlt _ ‹_›⟩ | exact hlt
    | cons x rest =>
      obtain ⟨txt, o⟩ := x
      rw [microStep_idle_cons st t b hi hp]
      have hn := beginOp_nNodes { st with th := upd st.th t { st.th t with prog := rest } } t o
      refine ⟨(beginOp_fresh _ t o).okN fun n hn' => ?_, h.of_nodes (beginOp_nodes ..) hn, Nat.le_of_eq hn.symm⟩
      rw [beginOp_node] at hn'; rw [hn]; exact hlt n (by simpa only [upd_same] using hn')
  · have hc := microStep_core st t b hi
    have e := (OpSt.core_ext st.cfg st.sh (st.th t).loc b _ h hk).of_nodes hc.nodes hc.nNodes
    obtain ⟨ho, hl, _⟩ := microStep_next st t b hi
    refine ⟨?_, e.ok, e.le⟩
    rw [ho, hl]
    exact OpSt.okN_mono (Nat.le_of_eq hc.nNodes.symm) _ _ (OpSt.next_okN _ _ _ _ _ hi h hk)

/-- the same for all threads: the others have not moved, and `nNodes` has not decreased -/
theorem microStep_okN_all (st : State) (t : Nat) (b : Bool) (h : NodesOk st.sh)
    (hk : ∀ t', (st.th t').op.okN st.sh (st.th t').loc) :
    NodesOk (microStep st t b).1.sh ∧
      ∀ t', ((microStep st t b).1.th t').op.okN (microStep st t b).1.sh ((microStep st t b).1.th t').loc := by
  obtain ⟨h1, h2, h3⟩ := microStep_okN st t b h (hk t)
  refine ⟨h2, fun t' => ?_⟩
  by_cases ht : t' = t
  · subst ht; exact h1
  · rw [microStep_th_other st t b ht]; exact OpSt.okN_mono h3 _ _ (hk t')

end M
