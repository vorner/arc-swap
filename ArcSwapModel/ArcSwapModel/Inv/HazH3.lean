import ArcSwapModel.Inv.HazH2

/-!
# The hazard invariant for the helping slot

`HazH`: while a reader of the fallback path holds its *confirmed* candidate `a` in the helping slot
of its node (after the end of its window, before it has taken its own reference: `fokInc`,
`fokPay`), `a` is still stored in a container nobody is destroying, or a writer that took `a` out is
walking the list and has the helping slot of that node still ahead (it will pay the debt), or the
reader is itself the destroyer of the container that holds `a` (a nested load of `into_inner` /
`Drop`).  Together with the ledger this is why the fallback's increment touches a live object.
-/

namespace M
open Consts

/-- between the end of the window and the reader's own reference -/
def LP.confirmed (a : Nat) : LP → Prop
  | .fokInc c | .fokPay c => c = a
  | _ => False

theorem stepLP_confirmed (cfg : Cfg) (c : Nat) (s : Shared) (l : Locals) (b : Bool) (lp : LP) (a : Nat)
    (h : (stepLP cfg c s l b lp).2.2.1.confirmed a) :
    (stepLP cfg c s l b lp).2.1.node = l.node ∧
      ((∃ g, lp = .f5 g a) ∨
        (lp = .fokInc a ∧ ∀ m, ((stepLP cfg c s l b lp).1.nodes m).hslot = (s.nodes m).hslot)) := by
  cases lp with
  | f5 g cand =>
    refine ⟨by simp only [stepLP]; (repeat' split) <;> rfl, Or.inl ⟨g, ?_⟩⟩
    simp only [stepLP] at h
    (repeat' split at h) <;> first | exact h.elim | exact congrArg _ h
  | fokInc cand => cases (h : cand = a); exact ⟨rfl, Or.inr ⟨rfl, fun m => incObj_hslot s _ m⟩⟩
  | _ => simp only [stepLP] at h <;> (repeat' split at h) <;> exact h.elim

structure HazH (N : Nat) (st : State) (L : List Nat) : Prop where
  cand : CandInv st L
  haz : ∀ o n a lp, (st.th o).op.lp? = some lp → lp.confirmed a → (st.th o).loc.node = some n →
    (st.sh.nodes n).hslot = .ptr a →
    (∃ c, c < N ∧ st.sh.cells c = some a ∧ st.ctaken c = false) ∨
      (∃ w pp, (st.th w).op.walkC? = some (a, pp) ∧ pp.ahead L n slotCnt) ∨
      ((st.th o).op.cons = true ∧ ∃ pp, (st.th o).op.walkC? = some (a, pp))

theorem HazH.initial (N : Nat) (cfg : Cfg) (progs : Nat → List (String × Op)) : HazH N (State.initial cfg progs) [] :=
  ⟨CandInv.initial cfg progs, fun o n a lp h => by simp [State.initial, OpSt.lp?] at h⟩

theorem LP.confirmed_owns {lp : LP} {a : Nat} (l : Locals) (h : lp.confirmed a) : ownsLP l lp = l.node := by
  cases lp <;> first | exact h.elim | rfl

theorem HazH.step {N T : Nat} {st : State} {L : List Nat} (h : HazH N st L) (hnl : NamedLinked st L)
    (ho : OwnInv st) (hn : NodeInv st) (hw : WalkNodeC st) (hx : ∀ t, (st.th t).op.cxok) (hb : BusyInv N T st)
    (hctl : CtlInv st) (haa : ActAddr st) (hne : NoEnv st.sh)
    (t : Nat) (b : Bool) (hne' : NoEnv (microStep st t b).1.sh) (hf' : (microStep st t b).1.sh.fault = none)
    (htame : Tame2 N st t) (pre : List Nat) :
    HazH N (microStep st t b).1 (pre ++ L) := by
  refine ⟨h.cand.step hnl hw hx hb hctl haa hne t b hne' htame pre, ?_⟩
  have hoth := fun u (e : u ≠ t) => microStep_th_other st t b e
  intro o n a lp' hlp hconf hnode hs'
  -- a walk that has the helping slot ahead keeps it ahead (it has not been paid)
  have ahead_keep : ∀ w pp, n ∈ L → (st.th w).op.walkC? = some (a, pp) → pp.ahead L n slotCnt →
      ∃ w pp', ((microStep st t b).1.th w).op.walkC? = some (a, pp') ∧ pp'.ahead (pre ++ L) n slotCnt := by
    intro w pp hnL hw1 hah
    by_cases e : w = t
    · subst e
      obtain ⟨c, hnodes, _, hor, _⟩ := microStep_walkC_fwd st w b a pp hw1
      rcases M.ahead_keep st.cfg a c st.sh (st.th w).loc b pp L hnl.linked.list.1 n slotCnt hnL (Nat.le_refl _)
        (hw w a pp hw1) hah with h2 | rfl
      · rcases hor with h3 | h3
        · exact ⟨w, _, h3, h2.prepend pre⟩
        · rw [h3] at h2; exact absurd h2 (PP.not_ahead_done L n slotCnt)
      · -- the attempt on the helping slot would have emptied it
        exfalso
        rw [hnodes] at hs'
        simp only [stepPP, Nat.lt_irrefl, ↓reduceIte] at hs'
        split at hs'
        · simp at hs'
        · rename_i hcur; exact hcur hs'
    · exact ⟨w, pp, by rw [hoth w e]; exact hw1, hah.prepend pre⟩
  -- a value in a container nobody is destroying stays there, or its writer starts walking
  have cell_keep : ∀ c, c < N → st.sh.cells c = some a → st.ctaken c = false →
      (∃ c, c < N ∧ (microStep st t b).1.sh.cells c = some a ∧ (microStep st t b).1.ctaken c = false) ∨
        (∃ w pp, ((microStep st t b).1.th w).op.walkC? = some (a, pp) ∧ pp.ahead (pre ++ L) n slotCnt) := by
    intro c hcN hc hnt
    have hct : (microStep st t b).1.ctaken c = false ∨ ((microStep st t b).1.th t).op.walkC? = some (a, .start) := by
      rcases microStep_ctaken st t b with h1 | ⟨hidle, c2, hc2, hcons⟩
      · left; rw [h1]; exact hnt
      · rcases microStep_cellq2 st t b c2 hc2 with ⟨h2, _⟩ | ⟨_, _, _, _, _, _, h7⟩
        · rw [hidle] at h2; cases h2
        · obtain ⟨_, h9, p, hp, hor⟩ := h7 hcons
          by_cases e : c = c2
          · subst e
            right
            rw [hc] at hp; cases hp
            rcases hor with ⟨x, hx'⟩ | hx' <;> (rw [hx']; rfl)
          · left; rw [h9]; simp [upd, e, hnt]
    rcases hct with hnt' | hstart
    · by_cases hidle : (st.th t).op = .idle
      · have hcell : (microStep st t b).1.sh.cells c = st.sh.cells c :=
          microStep_cells_other st t b c (by rw [hidle]; intro x; cases x) (fun _ txt x rest hp => by
            have := (htame hidle txt _ rest hp).2 c x rfl
            rw [hc] at this; cases this)
        exact Or.inl ⟨c, hcN, by rw [hcell]; exact hc, hnt'⟩
      · cases hcb : (st.th t).op.cons with
        | true =>
          have hne2 : (st.th t).op.cell? ≠ some c := fun hcc => by
            have := hb.taken t c hcb hcc; rw [hnt] at this; cases this
          have hcell : (microStep st t b).1.sh.cells c = st.sh.cells c :=
            microStep_cells_other st t b c hne2 (fun hi' => absurd hi' hidle)
          exact Or.inl ⟨c, hcN, by rw [hcell]; exact hc, hnt'⟩
        | false =>
          rcases microStep_cells (N := N) st t b (hx t) (fun e' => absurd e' hidle) hcb c a hc with h1 | ⟨h1, _⟩
          · exact Or.inl ⟨c, hcN, h1, hnt'⟩
          · exact Or.inr ⟨t, .start, OpSt.walkC_of_walk h1, PP.ahead_start _ n slotCnt⟩
    · exact Or.inr ⟨t, .start, hstart, PP.ahead_start _ n slotCnt⟩
  -- so the first two ways of being protected are kept, whoever steps
  have keep : n ∈ L → (∃ c, c < N ∧ st.sh.cells c = some a ∧ st.ctaken c = false) ∨
        (∃ w pp, (st.th w).op.walkC? = some (a, pp) ∧ pp.ahead L n slotCnt) →
      (∃ c, c < N ∧ (microStep st t b).1.sh.cells c = some a ∧ (microStep st t b).1.ctaken c = false) ∨
        (∃ w pp, ((microStep st t b).1.th w).op.walkC? = some (a, pp) ∧ pp.ahead (pre ++ L) n slotCnt) ∨
        (((microStep st t b).1.th o).op.cons = true ∧ ∃ pp, ((microStep st t b).1.th o).op.walkC? = some (a, pp)) := by
    rintro hnL (⟨c, hcN, hc, hnt⟩ | ⟨w, pp, hw1, hah⟩)
    · exact (cell_keep c hcN hc hnt).imp_right Or.inl
    · exact Or.inr (Or.inl (ahead_keep w pp hnL hw1 hah))
  by_cases e : o = t
  · subst e
    rcases microStep_lp_back st o b lp' hlp with ⟨lp, c, h1, h2, rfl⟩ | rfl
    · obtain ⟨c1, hc1, hnodes, hcells, hloc, _⟩ := microStep_lp st o b lp h1
      obtain rfl : c1 = c := Option.some.inj (hc1.symm.trans h2)
      have hnidle : (st.th o).op ≠ .idle := fun e' => by rw [e'] at h1; cases h1
      have hcons : ((microStep st o b).1.th o).op.cons = (st.th o).op.cons := by
        obtain ⟨c2, hc2⟩ : ∃ c2, ((microStep st o b).1.th o).op.cell? = some c2 := by
          cases hq : ((microStep st o b).1.th o).op <;> first | exact ⟨_, rfl⟩ | (rw [hq] at hlp; cases hlp)
        rcases microStep_cellq2 st o b c2 hc2 with ⟨_, h5⟩ | ⟨h4, _⟩
        · exact h5
        · exact absurd h4 hnidle
      have hkeep : (microStep st o b).1.ctaken = st.ctaken := by
        rcases microStep_ctaken st o b with h4 | ⟨h4, _⟩
        · exact h4
        · exact absurd h4 hnidle
      obtain ⟨hl, hor⟩ := stepLP_confirmed st.cfg c1 st.sh (st.th o).loc b lp a hconf
      have hcl := (stepLP_frame st.cfg c1 st.sh (st.th o).loc b lp).1
      have hnode0 : (st.th o).loc.node = some n := by rw [hloc, hl] at hnode; exact hnode
      have hnL : n ∈ L := hnl.linked.node o n hnode0
      -- the destroyer's own walk goes on
      have self_keep : (st.th o).op.cons = true → ∀ pp, (st.th o).op.walkC? = some (a, pp) →
          ((microStep st o b).1.th o).op.cons = true ∧ ∃ pp', ((microStep st o b).1.th o).op.walkC? = some (a, pp') := by
        intro hcb pp hw1
        refine ⟨by rw [hcons]; exact hcb, ?_⟩
        obtain ⟨c0, p, hh, hshape⟩ := cons_lp_shape hcb h1
        have hpp : pp = .hload hh lp := by
          rcases hshape with ⟨x, hx'⟩ | hx' <;>
            (rw [hx'] at hw1; simp only [OpSt.walkC?, Option.some.injEq, Prod.mk.injEq] at hw1; exact hw1.2.symm)
        subst hpp
        obtain ⟨c', _, _, hor', _⟩ := microStep_walkC_fwd st o b a _ hw1
        rcases hor' with h5 | h5
        · exact ⟨_, h5⟩
        · exact absurd h5 (stepPP_lp_ne_done _ _ _ _ _ _ (.hload _ _) _ rfl)
      rcases hor with ⟨g, rfl⟩ | ⟨rfl, hhs⟩
      · -- the window has just ended
        rcases h.cand o n c1 g a _ h1 rfl hnode0 h2 with hq | ⟨hnc, w, pp, hw1, _, hpre⟩
        · cases hcb : (st.th o).op.cons with
          | false =>
            obtain ⟨_, hcN, hnt⟩ := hb.free o c1 h2 hcb
            exact Or.inl ⟨c1, hcN, by rw [hcells, hcl]; exact hq, by rw [hkeep]; exact hnt⟩
          | true =>
            obtain ⟨c0, p, hh, hshape⟩ := cons_lp_shape hcb h1
            have hcw : (st.th o).op.consWalk c0 p := by
              rcases hshape with ⟨x, hx'⟩ | hx' <;> rw [hx']
              · exact Or.inl ⟨x, _, rfl⟩
              · exact Or.inr ⟨_, rfl⟩
            have hcp := hb.ccell o c0 p hcw
            obtain rfl : c0 = c1 := Option.some.inj ((OpSt.consWalk_cons hcw).2.symm.trans h2)
            obtain rfl : p = a := Option.some.inj (hcp.symm.trans hq)
            have hw1 : (st.th o).op.walkC? = some (p, .hload hh (.f5 g p)) := by
              rcases hshape with ⟨x, hx'⟩ | hx' <;> (rw [hx']; rfl)
            exact Or.inr (Or.inr (self_keep hcb _ hw1))
        · exact keep hnL (Or.inr ⟨w, pp, hw1, hpre.ahead slotCnt⟩)
      · -- the reader has taken its reference; the slot is as it was
        have hs : (st.sh.nodes n).hslot = .ptr a := by rw [hnodes, hhs n] at hs'; exact hs'
        rcases h.haz o n a _ h1 rfl hnode0 hs with h5 | h5 | ⟨hcb, pp, hw1⟩
        · exact keep hnL (Or.inl h5)
        · exact keep hnL (Or.inr h5)
        · exact Or.inr (Or.inr (self_keep hcb pp hw1))
    · exact hconf.elim
  · have o2 : ownsT ((microStep st t b).1.th o) = some n := by
      rw [ownsT_of_lp _ _ hlp, LP.confirmed_owns _ hconf]; exact hnode
    rw [hoth o e] at hlp hnode
    have hs : (st.sh.nodes n).hslot = .ptr a := by
      rcases microStep_hhold st t b hn.nodes.slots (hn.th t) hf' n a hs' with ⟨h1, _⟩ | h2
      · exact h1
      · -- the stepping thread would own the reader's node
        exact ((ho.step t b).excl o t n e o2 (owns_of_hholds _ n a h2)).elim
    rcases h.haz o n a lp' hlp hconf hnode hs with h5 | h5 | hd
    · exact keep (hnl.linked.node o n hnode) (Or.inl h5)
    · exact keep (hnl.linked.node o n hnode) (Or.inr h5)
    · exact Or.inr (Or.inr (by rw [hoth o e]; exact hd))

end M
