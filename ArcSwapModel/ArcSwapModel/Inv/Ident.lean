import ArcSwapModel.Inv.Touch4

/-!
# The object at an address keeps its identity and content until the address is allocated again

Count operations change `cnt` and `live` only; nothing but the allocator writes `id` and `val`.
-/

namespace M
open Consts

/-- same identity and content -/
def SameObj (o o' : Obj) : Prop := o'.id = o.id ∧ o'.val = o.val

theorem SameObj.refl (o : Obj) : SameObj o o := ⟨rfl, rfl⟩

theorem SameObj.of_eq {o o' : Obj} (e : o' = o) : SameObj o o' := e ▸ .refl o

theorem SameObj.upd (h : Nat → Obj) (x a : Nat) (o : Obj) (ho : SameObj (h x) o) : SameObj (h a) (upd h x o a) := by
  by_cases e : a = x
  · subst e; rw [upd_same]; exact ho
  · rw [upd_other _ _ _ _ e]; exact .refl _

theorem incObj_same (s : Shared) (x a : Nat) : SameObj (s.heap a) ((incObj s x).1.heap a) := by
  simp only [incObj]; split
  · exact .upd _ x a _ ⟨rfl, rfl⟩
  · exact .of_eq (congrFun (setFault_heap ..) a)

theorem decObj_same (s : Shared) (x a : Nat) : SameObj (s.heap a) ((decObj s x).1.heap a) := by
  simp only [decObj]; (repeat' split) <;>
    first | exact .upd _ x a _ ⟨rfl, rfl⟩ | exact .of_eq (congrFun (setFault_heap ..) a)

theorem CountOp.same {s s' : Shared} {x : Nat} (h : CountOp s x s') (a : Nat) : SameObj (s.heap a) (s'.heap a) := by
  rcases h with e | e <;> rw [e]
  · exact incObj_same s x a
  · exact decObj_same s x a

theorem stepCP_same (cfg : Cfg) (c cur new : Nat) (s : Shared) (l : Locals) (b : Bool) (cp : CP) (a : Nat) :
    SameObj (s.heap a) ((stepCP cfg c cur new s l b cp).1.heap a) := by
  cases ht : cp.touch new with
  | none => exact .of_eq (congrFun (stepCP_heap cfg c cur new s l b cp ht) a)
  | some x => exact (stepCP_touch cfg c cur new s l b cp x ht).same a

/-- **an object keeps its identity and content** through every step of every thread, unless its
    address is the one the allocator hands out in that step -/
theorem microStep_same (st : State) (t : Nat) (b : Bool) (a : Nat) :
    SameObj (st.sh.heap a) ((microStep st t b).1.sh.heap a) ∨ ∃ v, a = (alloc st.sh v).2.1 := by
  cases ht : (st.th t).op.touch with
  | none => exact (microStep_heap_of_no_touch st t b ht a).imp .of_eq id
  | some x =>
    have hni : (st.th t).op ≠ .idle := fun e => by rw [e] at ht; cases ht
    rw [(microStep_core st t b hni).heap]
    exact .inl ((OpSt.core_touch _ _ _ b _ x ht).same a)

/-- **a counted object keeps its identity and content**: the allocator hands out only addresses
    whose count is zero (the pool is not exhausted), so a step leaves the `id` and the content of
    every object with a positive count as they were -/
theorem counted_keeps_identity (st : State) (t : Nat) (b : Bool) (a : Nat)
    (hroom : ∀ v, (st.sh.heap (alloc st.sh v).2.1).cnt = 0) (hc : 1 ≤ (st.sh.heap a).cnt) :
    SameObj (st.sh.heap a) ((microStep st t b).1.sh.heap a) := by
  rcases microStep_same st t b a with h | ⟨v, h⟩
  · exact h
  · have := hroom v; rw [← h] at this; omega

end M
