import ArcSwapModel.Inv.HoldH

/-!
# A slot found empty by its owner stays empty until the owner fills it

`fast::get_debt` reads a slot of the thread's node, finds `NONE` and swaps the pointer in, with
`debug_assert_eq!(old, NONE)`.  Only the owner of a node ever fills its fast slots (`LP.pswap`);
everybody else only clears them (`microStep_fill`, from `SlotsStep`), and a load arrives at the swap
only from the probe that found the slot empty (`microStep_arrive`).  `ProbeInv`: a thread that is
about to swap into slot `i` of its node finds it empty — in every reachable state.
-/

namespace M
open Consts

/-- only `who` fills an empty fast slot -/
def FillOnly (s s' : Shared) (who : Nat → Nat → Prop) : Prop :=
  ∀ n i, (s.nodes n).fast i = .none → (s'.nodes n).fast i = .none ∨ who n i

theorem microStep_fill (st : State) (t : Nat) (b : Bool) (hb : Beyond st.sh)
    (hk : (st.th t).op.okN st.sh (st.th t).loc) :
    FillOnly st.sh (microStep st t b).1.sh (AtSwap (st.th t).loc (st.th t).op.lp?) := fun _ i hs =>
  (microStep_slot st t b hb hk _ i).elim (fun e => Or.inl (e.trans hs)) id

/-! ## A load arrives at the swap only from the probe that found the slot empty -/

/-- what a sub-machine has to say about arriving at the swap -/
def Arrive (s' : Shared) (l' : Locals) (lp' : Option LP) : Prop :=
  ∀ p i n, lp' = some (.pswap p i) → l'.node = some n → (s'.nodes n).fast i = .none

theorem Arrive.of_ne {s' : Shared} {l' : Locals} {lp' : Option LP} (h : ∀ p i, lp' ≠ some (.pswap p i)) : Arrive s' l' lp' :=
  fun p i _ e => absurd e (h p i)

theorem Arrive.of_lp {s' : Shared} {l' : Locals} {lp' lp'' : Option LP} (h : Arrive s' l' lp')
    (hl : ∀ ld, lp'' = some ld → lp' = some ld) : Arrive s' l' lp'' :=
  fun p i n e => h p i n (hl _ e)

theorem stepLP_arrive (cfg : Cfg) (c : Nat) (s : Shared) (l : Locals) (b : Bool) (lp : LP)
    (hset : lp.early = false → l.node.isSome = true) :
    Arrive (stepLP cfg c s l b lp).1 (stepLP cfg c s l b lp).2.1 (some (stepLP cfg c s l b lp).2.2.1) := by
  intro p i n h hn
  replace h := Option.some.inj h
  cases lp with
  | probe q i0 =>
    obtain ⟨n0, hn0⟩ := Option.isSome_iff_exists.mp (hset rfl)
    simp only [stepLP, hn0, Option.getD_some] at h hn ⊢
    cases hn
    split at h
    · rename_i hv; cases h; exact hv
    · split at h <;> cases h
  | _ =>
    simp only [stepLP] at h
    (repeat' split at h) <;> cases h

theorem PP.dispatch_lp (h : HL) : (PP.dispatch h).lp? = none := by
  simp only [PP.dispatch]; split <;> rfl
theorem PP.nextSlot_lp (n j : Nat) : (PP.nextSlot n j).lp? = none := by
  simp only [PP.nextSlot]; split <;> rfl

theorem stepPP_arrive (cfg : Cfg) (p c : Nat) (s : Shared) (l : Locals) (b : Bool) (pp : PP) (hk : pp.okN s l) :
    Arrive (stepPP cfg p c s l b pp).1 (stepPP cfg p c s l b pp).2.1 (stepPP cfg p c s l b pp).2.2.1.lp? := by
  cases pp with
  | hload x ld => rw [stepPP_hload]; exact (stepLP_arrive cfg c s l b ld hk.2.1).of_lp fun _ e => PP.afterLoad_lp_eq e ▸ rfl
  | _ =>
    simp only [stepPP]
    refine Arrive.of_ne (fun q i => ?_)
    (repeat' split) <;> (try simp only [PP.dispatch_lp, PP.nextSlot_lp]) <;> exact fun e => by cases e

theorem stepCP_arrive (cfg : Cfg) (c cur new : Nat) (s : Shared) (l : Locals) (b : Bool) (cp : CP) (hk : cp.okN s l) :
    Arrive (stepCP cfg c cur new s l b cp).1 (stepCP cfg c cur new s l b cp).2.1 (stepCP cfg c cur new s l b cp).2.2.1.lp? := by
  cases cp with
  | load ld => rw [stepCP_load]; exact (stepLP_arrive cfg c s l b ld hk.2.1).of_lp fun _ e => CP.afterLoad_lp_eq e ▸ rfl
  | pay old pp => rw [stepCP_pay]; exact (stepPP_arrive cfg old.ptr c s l b pp hk).of_lp fun _ e => (CP.afterPay_lp old _).symm.trans e
  | _ =>
    simp only [stepCP]
    refine Arrive.of_ne (fun q i => ?_)
    (repeat' split) <;> exact fun e => by cases e

theorem stepRP_arrive (cfg : Cfg) (c : Nat) (s : Shared) (l : Locals) (b : Bool) (tries : Nat) (rp : RP) (hk : rp.okN s l) :
    Arrive (stepRP cfg c s l b tries rp).1 (stepRP cfg c s l b tries rp).2.1 (stepRP cfg c s l b tries rp).2.2.1.lp? := by
  cases rp with
  | load ld => rw [stepRP_load]; exact (stepLP_arrive cfg c s l b ld hk.2.1).of_lp fun _ e => RP.afterLoad_lp_eq e ▸ rfl
  | cas cur x cp => rw [stepRP_cas]; exact (stepCP_arrive cfg c cur.ptr x s l b cp hk).of_lp fun _ e => (RP.afterCas_lp cur x _).symm.trans e
  | _ =>
    simp only [stepRP]
    refine Arrive.of_ne (fun q i => ?_)
    (repeat' split) <;> exact fun e => by cases e

/-- an operation begins with no load in progress, or with one at its start -/
theorem OpSt.fresh.lp_start {op : OpSt} (hf : op.fresh) {ld : LP} (h : op.lp? = some ld) : ld = .start := by
  cases op <;> first | exact hf.elim | (cases hf; cases h <;> rfl)

theorem beginOp_probe (st : State) (t : Nat) (o : Op) :
    (∀ n, ((beginOp st t o).1.sh.nodes n).fast = (st.sh.nodes n).fast) ∧
      ∀ q i, ((beginOp st t o).1.th t).op.lp? ≠ some (.pswap q i) :=
  ⟨fun n => by rw [beginOp_nodes], fun _ _ h => by cases (beginOp_fresh st t o).lp_start h⟩

theorem OpSt.next_arrive (cfg : Cfg) (s : Shared) (l : Locals) (b : Bool) (op : OpSt) (hk : op.okN s l) :
    Arrive (op.core cfg s l b) (op.next cfg s l b).2 (op.next cfg s l b).1.lp? := by
  cases op with
  | load c _ ld | loadFull c _ ld =>
    have h1 := stepLP_arrive cfg c s l b ld hk.2.1
    simp only [OpSt.next]
    generalize (stepLP cfg c s l b ld).2.2.1 = ld' at h1
    cases ld' <;> first | exact h1 | ((repeat' split) <;> exact Arrive.of_ne fun _ _ e => nomatch e)
  | swapPay c _ p _ pp | cinto c _ p pp | dropc c p pp =>
    have h1 := stepPP_arrive cfg p c s l b pp hk
    simp only [OpSt.next]
    generalize (stepPP cfg p c s l b pp).2.2.1 = pp' at h1
    cases pp' <;> first | exact h1 | ((repeat' split) <;> exact Arrive.of_ne fun _ _ e => nomatch e)
  | cas c cur keep curPtr new g cp =>
    have h1 := stepCP_arrive cfg c curPtr new s l b cp hk
    simp only [OpSt.next]
    generalize (stepCP cfg c curPtr new s l b cp).2.2.1 = cp' at h1
    cases cp' <;> first | exact h1 | exact Arrive.of_ne fun _ _ e => nomatch e
  | rcu c out tries rp =>
    have h1 := stepRP_arrive cfg c s l b tries rp hk
    simp only [OpSt.next]
    generalize (stepRP cfg c s l b tries rp).2.2.1 = rp' at h1
    cases rp' <;> first | exact h1 | exact Arrive.of_ne fun _ _ e => nomatch e
  | _ =>
    refine Arrive.of_ne fun _ _ e => ?_
    simp only [OpSt.next] at e
    (repeat' split at e) <;> cases e

theorem microStep_arrive (st : State) (t : Nat) (b : Bool) (hk : (st.th t).op.okN st.sh (st.th t).loc) :
    Arrive (microStep st t b).1.sh ((microStep st t b).1.th t).loc ((microStep st t b).1.th t).op.lp? := by
  by_cases hi : (st.th t).op = .idle
  · simp only [microStep, hi]
    split
    · refine Arrive.of_ne (fun q i => ?_)
      simp only [upd_same]; split <;> exact fun e => by cases e
    · exact Arrive.of_ne (beginOp_probe _ t _).2
  · obtain ⟨ho, hl, _⟩ := microStep_next st t b hi
    intro p i n
    rw [ho, hl, (microStep_core st t b hi).nodes]
    exact OpSt.next_arrive _ _ _ _ _ hk p i n

/-- **a thread about to swap a debt into slot `i` of its node finds the slot empty** -/
def ProbeInv (st : State) : Prop :=
  ∀ t p i n, (st.th t).op.lp? = some (.pswap p i) → (st.th t).loc.node = some n → (st.sh.nodes n).fast i = .none

theorem ProbeInv.initial (cfg : Cfg) (progs : Nat → List (String × Op)) : ProbeInv (State.initial cfg progs) := by
  intro t p i n h; cases h

theorem ProbeInv.step {st : State} (h : ProbeInv st) (hn : NodeInv st) (ho : OwnInv st) (u : Nat) (b : Bool) :
    ProbeInv (microStep st u b).1 := by
  intro t p i n hlp hnode
  by_cases htu : t = u
  · subst htu; exact microStep_arrive st t b (hn.th t) p i n hlp hnode
  · rw [microStep_th_other st u b htu] at hlp hnode
    rcases microStep_fill st u b hn.nodes.slots (hn.th u) n i (h t p i n hlp hnode) with h1 | ⟨h2, p', h3⟩
    · exact h1
    · -- two threads on one node
      have e1 : ownsT (st.th t) = some n := by rw [ownsT_of_lp _ _ hlp]; exact hnode
      have e2 : ownsT (st.th u) = some n := by rw [ownsT_of_lp _ _ h3]; exact h2
      exact absurd e2 (ho.excl t u n htu e1)

theorem ProbeInv.reachable {st : State} (h : Reachable st) : ProbeInv st :=
  Reachable.induct ProbeInv.initial (fun _ t b hr ih => ih.step (NodeInv.reachable hr) (OwnInv.reachable hr) t b) h

/-- hence the swap of `fast::get_debt` raises no fault: `debug_assert_eq!(old, NONE)` holds -/
theorem pswap_no_fault {st : State} (h : Reachable st) (t c g p i : Nat) (b : Bool)
    (hop : (st.th t).op = .load c g (.pswap p i)) (hf : st.sh.fault = none) :
    (microStep st t b).1.sh.fault = none := by
  have hk := (NodeInv.reachable h).th t
  rw [hop] at hk
  obtain ⟨n0, hn0⟩ := Option.isSome_iff_exists.mp (hk.2.1 rfl)
  have h0 := ProbeInv.reachable h t p i n0 (by rw [hop]; rfl) hn0
  simp only [microStep, hop, stepLP, hn0, Option.getD_some, h0, ↓reduceIte]
  exact hf

end M
