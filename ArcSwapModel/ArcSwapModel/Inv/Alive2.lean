import ArcSwapModel.Inv.Live

/-!
# A guard whose debt has been paid owns its reference

`Inv/Alive.lean` counts claims against occupied slots.  A claim on a slot that does *not* name the
value (the writer has paid it) is a claim nobody matches, so the count is strictly larger: the
guard keeps its value alive although it still carries the debt.
-/

namespace M
open Consts

theorem Wf.run0 {K N T : Nat} (hK : 0 < K) {st : State} (h : Wf K st) (sched : List (Nat × Bool))
    (he : EnvRun0 K N T st sched) : Wf K (run st sched) := by
  induction sched generalizing st with
  | nil => exact h
  | cons x rest ih =>
    obtain ⟨t, b⟩ := x
    obtain ⟨_, h1, hrest⟩ := he
    have hmono := (microStep_okN st t b h.nodes (h.thN t)).2.2
    have hn : st.sh.nNodes ≤ K := Nat.le_trans hmono h1.nodesBelow
    exact ih (h.step t b hK hn h1.noEnv) hrest

/-- the slots naming `a`, plus one, are at most the claims — when some slot is over-claimed -/
theorem occ_lt_claims (K N T : Nat) (st : State) (a : Nat) (h1 : HoldInv st) (h2 : HHoldInv st)
    (hg : GregBelow N st.sh.greg) (ht : IdleBeyond T st)
    (n0 i0 : Nat) (hn0 : n0 < K) (hi0 : i0 < slotCnt + 1)
    (hover : named (st.sh.nodes n0) a i0 + 1 ≤
        sumN (fun g => cnt2 (gClaims a (st.sh.greg g)) n0 i0) N +
        sumN (fun t => cnt2 ((st.th t).op.claims a (st.th t).loc) n0 i0) T) :
    occ K st.sh.nodes a + 1 ≤ sumN (fun g => (gClaims a (st.sh.greg g)).length) N +
      sumN (fun t => ((st.th t).op.claims a (st.th t).loc).length) T := by
  rw [occ_named]
  exact Nat.le_trans (sum2_lt (occ_pointwise K N T st a h1 h2 hg ht) hn0 hi0 hover) (sum2_claims ..)

/-- a slot that is claimed more often than it names the value: one of the claimants has been paid, so
    the ledger leaves the value a positive count (`i = slotCnt` is the helping slot) -/
theorem Balanced.counted_of_overclaimed {K N T : Nat} {st : State} (h : Balanced K N T st) (a : Nat) (ha : a ≠ 0)
    (n i : Nat) (hn : n < K) (hi : i < slotCnt + 1)
    (hover : named (st.sh.nodes n) a i + 1 ≤
        sumN (fun g => cnt2 (gClaims a (st.sh.greg g)) n i) N +
        sumN (fun t => cnt2 ((st.th t).op.claims a (st.th t).loc) n i) T) :
    1 ≤ (st.sh.heap a).cnt := by
  have hocc := occ_lt_claims K N T st a h.hold h.hhold h.greg h.idle n i hn hi hover
  have hl := h.ledger a ha
  have := claims_le_units N T st a
  simp only [pot, Shared.regs, regs] at hl
  omega

/-- **a guard whose debt has been paid keeps the value alive**: a register guard for `a` with a debt
    on a slot that does not name `a` (any more) -/
theorem paid_guard_counted (K N T : Nat) (hK : 0 < K) (cfg : Cfg) (progs : Nat → List (String × Op))
    (sched : List (Nat × Bool)) (he : EnvRun0 K N T (State.initial cfg progs) sched)
    (hf : (run (State.initial cfg progs) sched).sh.fault = none) (a : Nat) (ha : a ≠ 0)
    (g : Nat) (hg : g < N) (gd : Guard) (hreg : (run (State.initial cfg progs) sched).sh.greg g = some gd)
    (hp : gd.ptr = a) (n i : Nat) (hd : gd.debt = some (n, i))
    (hpaid : ((run (State.initial cfg progs) sched).sh.nodes n).fast i ≠ .ptr a) :
    1 ≤ ((run (State.initial cfg progs) sched).sh.heap a).cnt := by
  have hwf := Wf.run0 hK (Wf.initial K cfg progs) sched he
  have hb := balanced_of_env hK he hf
  generalize run (State.initial cfg progs) sched = st at *
  obtain ⟨hnK, hiS⟩ := hwf.greg g gd hreg n i hd
  -- the guard's claim on `(n, i)` is matched by nothing
  refine hb.counted_of_overclaimed a ha n i hnK (by omega) ?_
  have e0 : named (st.sh.nodes n) a i = 0 := by simp only [named, hiS, ↓reduceIte, ind, hpaid]
  have c1 : 1 ≤ cnt2 (gClaims a (st.sh.greg g)) n i := by
    rw [hreg]; exact cnt2_pos (Guard.claims_of_holds ⟨hp, hd⟩)
  have := sumN_term (f := fun g => cnt2 (gClaims a (st.sh.greg g)) n i) hg
  omega

end M
