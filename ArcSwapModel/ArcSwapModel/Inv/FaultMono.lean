import ArcSwapModel.M.Upd

/-!
# A fault, once raised, stays: a fault-free state has a fault-free past

Every primitive write either leaves the fault flag alone or raises one through `setFault`, which never
clears an existing fault.  So "the execution ended without a fault" implies "no intermediate state had a
fault", which lets invariants be stated for fault-free states only.
-/

namespace M

theorem setFault_none_iff (s : Shared) (f : Fault) : (s.setFault f).fault = none ↔ False := by
  unfold Shared.setFault; split <;> simp_all

theorem Upd1.fault_keep {s s' : Shared} (h : Upd1 s s') {f : Fault} (hf : s.fault = some f) : s'.fault = some f := by
  cases h with
  | fault => exact setFault_fault_of_some _ _ _ hf
  | inc a => simp only [incObj]; split <;> first | exact hf | exact setFault_fault_of_some _ _ _ hf
  | dec a => simp only [decObj]; (repeat' split) <;> first | exact hf | exact setFault_fault_of_some _ _ _ hf
  | _ => exact hf

theorem Upds.fault_keep {s s' : Shared} (h : Upds s s') {f : Fault} (hf : s.fault = some f) : s'.fault = some f :=
  h.keeps (P := fun s => s.fault = some f) (fun _ _ h1 => h1.fault_keep) hf

theorem Upds.fault_mono {s s' : Shared} (h : Upds s s') (hn : s'.fault = none) : s.fault = none := by
  cases hf : s.fault with
  | none => rfl
  | some f => rw [h.fault_keep hf] at hn; cases hn

theorem dbgInUse_fault_mono (s : Shared) (n : Nat) (site : String) (h : (dbgInUse s n site).fault = none) :
    s.fault = none := ((Upds.refl s).dbg n site).fault_mono h

theorem stepNG_fault_mono (s : Shared) (b : Bool) (ng : NG) (h : (stepNG s b ng).1.fault = none) : s.fault = none :=
  (stepNG_upds s b ng).fault_mono h

theorem stepCD_fault_mono (s : Shared) (cd : CD) (h : (stepCD s cd).1.fault = none) : s.fault = none :=
  (stepCD_upds s cd).fault_mono h

theorem stepGD_fault_mono (s : Shared) (gd : GD) (h : (stepGD s gd).1.fault = none) : s.fault = none :=
  (stepGD_upds s gd).fault_mono h

theorem stepGI_fault_mono (s : Shared) (gi : GI) (h : (stepGI s gi).1.fault = none) : s.fault = none :=
  (stepGI_upds s gi).fault_mono h

theorem microStep_keep (st : State) (t : Nat) (b : Bool) (f : Fault) (h : st.sh.fault = some f) :
    (microStep st t b).1.sh.fault = some f :=
  microStep_keeps (P := fun s => s.fault = some f) (fun _ _ h1 => h1.fault_keep) (fun _ _ he hx => he.fault.trans hx)
    st t b h

/-- a fault-free state has a fault-free past -/
theorem microStep_fault_mono (st : State) (t : Nat) (b : Bool) (h : (microStep st t b).1.sh.fault = none) :
    st.sh.fault = none := by
  cases hf : st.sh.fault with
  | none => rfl
  | some f => rw [microStep_keep st t b f hf] at h; cases h

/-- Induction over executions that have raised no fault: no earlier state had one either. -/
theorem Reachable.induct_ff {P : State → Prop} (h0 : ∀ cfg progs, P (State.initial cfg progs))
    (hs : ∀ st t b, Reachable st → st.sh.fault = none → P st → (microStep st t b).1.sh.fault = none →
      P (microStep st t b).1) {st : State} (h : Reachable st) (hf : st.sh.fault = none) : P st :=
  h.induct (P := fun st => st.sh.fault = none → P st) (fun cfg progs _ => h0 cfg progs)
    (fun st t b hr ih hf' =>
      hs st t b hr (microStep_fault_mono st t b hf') (ih (microStep_fault_mono st t b hf')) hf') hf

end M
