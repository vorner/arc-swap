import ArcSwapModel.Inv.Check

/-!
# The nodes threads work on are on the list

`Node::get` inspects nodes it reaches from `LIST_HEAD` through `next`, and returns one of them or
the node it has just linked; a thread's `LocalNode` holds a node so obtained.  `Linked`: in every
reachable state the node of every thread, and the node every `Node::get` in progress is looking
at, are on the list (which only grows).  So debt slots that name a value — only a node's owner
fills them — are slots of nodes on the list (`Inv/Named.lean`): a writer that starts its walk
afterwards passes them.
-/

namespace M
open Consts

/-- the node a `Node::get` in progress is looking at, or has got -/
def NG.seen : NG → Option Nat
  | .cc0 n | .cc1 n | .cc2 n _ | .claim n | .done n => some n
  | _ => none

def LP.seen : LP → Option Nat
  | .get ng | .reget ng => ng.seen
  | _ => none
def PP.seen : PP → Option Nat
  | .get ng => ng.seen
  | .hload _ ld => ld.seen
  | _ => none
def CP.seen : CP → Option Nat
  | .load ld => ld.seen
  | .pay _ pp => pp.seen
  | _ => none
def RP.seen : RP → Option Nat
  | .load ld => ld.seen
  | .cas _ _ cp => cp.seen
  | _ => none
def OpSt.seen : OpSt → Option Nat
  | .load _ _ ld | .loadFull _ _ ld => ld.seen
  | .swapPay _ _ _ _ pp | .cinto _ _ _ pp | .dropc _ _ pp => pp.seen
  | .cas _ _ _ _ _ _ cp => cp.seen
  | .rcu _ _ _ rp => rp.seen
  | _ => none

/-- on the list as it was, or the (new) head -/
def OnL (L : List Nat) (s' : Shared) (n : Nat) : Prop := n ∈ L ∨ s'.head = some n

theorem chain_head_mem {next : Nat → Option Nat} {hd : Option Nat} {L : List Nat} (h : chainFrom next hd L)
    (n : Nat) (hn : hd = some n) : n ∈ L := by
  subst hn
  cases L with
  | nil => exact h.elim
  | cons m L => obtain ⟨e, _, _⟩ := h; subst e; exact List.mem_cons_self ..

theorem chain_next_mem {next : Nat → Option Nat} {hd : Option Nat} {L : List Nat} (h : chainFrom next hd L)
    (n m : Nat) (hn : n ∈ L) (hm : next n = some m) : m ∈ L := by
  obtain ⟨L1, L2, e, h2⟩ := chainFrom_next h n hn
  rw [hm] at h2
  have := chain_head_mem h2 m rfl
  rw [e]; exact List.mem_append_right _ (List.mem_cons_of_mem _ this)

theorem stepNG_seen (s : Shared) (b : Bool) (ng : NG) (L : List Nat) (hc : chainFrom (nextOf s) s.head L)
    (hs : ∀ n, ng.seen = some n → n ∈ L) :
    ∀ n, (stepNG s b ng).2.1.seen = some n → OnL L (stepNG s b ng).1 n := by
  cases ng with
  | trav =>
    simp only [stepNG]; intro n hn
    cases hh : s.head with
    | none => rw [hh] at hn; cases hn
    | some m => rw [hh] at hn; cases hn; exact .inr hh
  | claim n0 =>
    simp only [stepNG]; split
    · intro n hn; cases hn; exact .inl (hs n0 rfl)
    · -- on to the next node of the list
      intro n hn
      simp only [NG.afterNode] at hn
      cases hnx : (s.nodes n0).next with
      | none => rw [hnx] at hn; cases hn
      | some m => rw [hnx] at hn; cases hn; exact .inl (chain_next_mem hc n0 _ (hs n0 rfl) hnx)
  | allocLoad => intro n hn; cases hn
  | allocCas me h => cases me <;> simp only [stepNG] <;> split <;> intro n hn <;> cases hn <;> exact .inr rfl
  | cc0 n0 | cc2 n0 _ => simp only [stepNG]; split <;> (intro n hn; cases hn; exact .inl (hs n0 rfl))
  | cc1 n0 | done n0 => intro n hn; cases hn; exact .inl (hs n0 rfl)

/-- what a step guarantees about the node looked at and the thread's node afterwards -/
def SeenOK (L : List Nat) (s' : Shared) (seen' : Option Nat) (l' : Locals) : Prop :=
  (∀ n, seen' = some n → OnL L s' n) ∧ (∀ n, l'.node = some n → OnL L s' n)

theorem SeenOK.quiet {L : List Nat} {s' : Shared} {l l' : Locals} (hl : ∀ n, l.node = some n → n ∈ L)
    (e : l'.node = l.node ∨ l'.node = none) : SeenOK L s' none l' :=
  ⟨fun _ h => (nomatch h), fun n h => .inl (hl n (e.elim (· ▸ h) (fun e => nomatch e ▸ h)))⟩

theorem SeenOK.frame {L : List Nat} {s1 s2 : Shared} {x : Option Nat} {l : Locals} (h : SeenOK L s1 x l)
    (hh : s2.head = s1.head) : SeenOK L s2 x l :=
  ⟨fun n hn => (h.1 n hn).elim Or.inl (fun e => Or.inr (by rw [hh]; exact e)),
   fun n hn => (h.2 n hn).elim Or.inl (fun e => Or.inr (by rw [hh]; exact e))⟩

theorem LP.seen_eq (lp : LP) : lp.seen = lp.nodeOp.via NG.seen := by cases lp <;> rfl
theorem PP.seen_eq (pp : PP) : pp.seen = pp.nodeOp.via NG.seen := by cases pp <;> first | rfl | exact LP.seen_eq _
theorem CP.seen_eq (cp : CP) : cp.seen = cp.nodeOp.via NG.seen := by
  cases cp <;> first | rfl | exact LP.seen_eq _ | exact PP.seen_eq _
theorem RP.seen_eq (rp : RP) : rp.seen = rp.nodeOp.via NG.seen := by
  cases rp <;> first | rfl | exact LP.seen_eq _ | exact CP.seen_eq _
theorem OpSt.seen_eq (op : OpSt) : op.seen = op.nodeOp.via NG.seen := by
  cases op <;> first | rfl | exact LP.seen_eq _ | exact PP.seen_eq _ | exact CP.seen_eq _ | exact RP.seen_eq _

theorem microStep_seen (st : State) (t : Nat) (b : Bool) (L : List Nat)
    (hc : chainFrom (nextOf st.sh) st.sh.head L) (hs : ∀ n, (st.th t).op.seen = some n → n ∈ L)
    (hl : ∀ n, (st.th t).loc.node = some n → n ∈ L) :
    SeenOK L (microStep st t b).1.sh ((microStep st t b).1.th t).op.seen ((microStep st t b).1.th t).loc := by
  rw [OpSt.seen_eq] at hs ⊢
  cases microStep_nodeStep st t b with
  | get ng ho hc' hl' ho' =>
    rw [ho] at hs; rw [ho']
    have h1 := stepNG_seen st.sh b ng L hc hs
    refine SeenOK.frame ⟨fun n hn => ?_, fun n hn => ?_⟩ hc'.head
    · cases hng : (stepNG st.sh b ng).2.1 <;> rw [hng] at hn h1 <;> first | exact h1 n hn | cases hn
    · rw [hl'] at hn
      cases hng : (stepNG st.sh b ng).2.1 <;> rw [hng] at hn h1 <;> first | exact h1 n hn | exact .inl (hl n hn)
  | cool cd ho hc' ho' =>
    rcases ho' with ⟨e, hn⟩ | ⟨_, ⟨e, hn⟩ | ⟨e, hn⟩⟩ <;> rw [e] <;> first | exact .quiet hl (.inl hn) | exact .quiet hl (.inr hn)
  | other ho hq hl' ho' =>
    rcases ho' with e | ⟨e, _⟩ | ⟨n, e, _⟩ <;> rw [e] <;> exact .quiet hl (.inl hl')

/-! ## The invariant -/

/-- the list, with every thread's node and every node under inspection on it -/
structure Linked (st : State) (L : List Nat) : Prop where
  list : ListInv st L
  seen : ∀ t n, (st.th t).op.seen = some n → n ∈ L
  node : ∀ t n, (st.th t).loc.node = some n → n ∈ L

theorem Linked.initial (cfg : Cfg) (progs : Nat → List (String × Op)) : Linked (State.initial cfg progs) [] :=
  ⟨ListInv.initial cfg progs, fun _ _ h => (nomatch h), fun _ _ h => (nomatch h)⟩

theorem Linked.step {st : State} {L : List Nat} (h : Linked st L) (ho : OwnInv st) (t : Nat) (b : Bool) :
    ∃ pre, Linked (microStep st t b).1 (pre ++ L) := by
  have hseen := microStep_seen st t b L h.list.1 (h.seen t) (h.node t)
  have hoth : ∀ t', t' ≠ t → (microStep st t b).1.th t' = st.th t' := fun _ h => microStep_th_other st t b h
  have lift : ∀ (L' : List Nat), ListInv (microStep st t b).1 L' → (∀ n, n ∈ L → n ∈ L') → Linked (microStep st t b).1 L' := by
    intro L' hL' hsub
    have onl : ∀ n, OnL L (microStep st t b).1.sh n → n ∈ L' := fun n hn =>
      hn.elim (hsub n) (fun e => chain_head_mem hL'.1 n e)
    refine ⟨hL', fun t' n hn => ?_, fun t' n hn => ?_⟩
    · by_cases ht : t' = t
      · subst ht; exact onl n (hseen.1 n hn)
      · rw [hoth t' ht] at hn; exact hsub n (h.seen t' n hn)
    · by_cases ht : t' = t
      · subst ht; exact onl n (hseen.2 n hn)
      · rw [hoth t' ht] at hn; exact hsub n (h.node t' n hn)
  rcases h.list.step ho t b with h1 | ⟨k, _, h1⟩
  · exact ⟨[], lift L h1 (fun _ hn => hn)⟩
  · exact ⟨[k], lift (k :: L) h1 (fun _ hn => List.mem_cons_of_mem _ hn)⟩

theorem Linked.reachable {st : State} (h : Reachable st) : ∃ L, Linked st L := by
  refine h.induct (P := fun st => ∃ L, Linked st L) (fun cfg progs => ⟨[], Linked.initial cfg progs⟩) ?_
  intro st t b hr ⟨L, hL⟩
  obtain ⟨pre, hpre⟩ := hL.step (OwnInv.reachable hr) t b
  exact ⟨pre ++ L, hpre⟩

/-- the node of every thread is on the list; with "only owners fill slots" (`NamedLinked`, Inv/Named.lean) so
    is every node with a fast slot that names a value -/
theorem thread_node_on_list {st : State} (h : Reachable st) : ∃ L, ListInv st L ∧
    ∀ t n, (st.th t).loc.node = some n → n ∈ L := by
  obtain ⟨L, hL⟩ := Linked.reachable h
  exact ⟨L, hL.list, hL.node⟩

end M
