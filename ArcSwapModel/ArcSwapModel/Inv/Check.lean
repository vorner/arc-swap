import ArcSwapModel.Inv.ListInv

/-!
# `check_cooldown` holds the node it checks

`Node::check_cooldown` takes a node out of the cooldown state (`NODE_COOLDOWN → NODE_CHECKING`),
looks at `active_writers`, and puts it to `NODE_UNUSED` or back to `NODE_COOLDOWN`.  `CheckInv`:
in every reachable state, a node whose check is in progress is in the checking state and is being
checked by exactly one thread — nobody claims it, nobody sends it to cooldown, nobody else checks
it.  So the exchange at the end of the check always finds `NODE_CHECKING` (the `debug_assert!`
there never fires), and between the look at the writers and the release the node cannot go through
another round of ownership (the defect D12).
-/

namespace M
open Consts

-- Unfolding one of these evaluates a lookup in the generated syntax tree; the proofs need
-- `Consts.node_checking_distinct` only.
attribute [local irreducible] Consts.slotCnt Consts.genStep Consts.nodeUsed Consts.nodeUnused Consts.nodeCooldown Consts.nodeChecking

/-- the node a `Node::get` in progress holds for its check -/
def NG.chk : NG → Option Nat
  | .cc1 n | .cc2 n _ => some n
  | _ => none

/-- how one step treats nodes under check, seen from the stepping thread (`c`: the node it holds) -/
structure ChkStep (s : Shared) (c : Option Nat) (s' : Shared) (c' : Option Nat) : Prop where
  /-- a node somebody else is checking is left alone -/
  others : ∀ m, (s.nodes m).inUse = nodeChecking → c ≠ some m → (s'.nodes m).inUse = nodeChecking
  /-- the node held afterwards was held before and is untouched, or was just taken out of a state
      other than checking -/
  mine : ∀ m, c' = some m →
    (c = some m ∧ (s'.nodes m).inUse = (s.nodes m).inUse) ∨
    (c = none ∧ (s.nodes m).inUse ≠ nodeChecking ∧ (s'.nodes m).inUse = nodeChecking)
  /-- it holds one node at a time -/
  one : ∀ m, c = some m → c' = none ∨ c' = some m

theorem ChkStep.of_same {s s' : Shared} (h : USame s s') : ChkStep s none s' none :=
  ⟨fun m hm _ => by rw [h m]; exact hm, (fun m hm => by cases hm), (fun m hm => by cases hm)⟩

theorem ChkStep.cast {s s' : Shared} {p q p2 q2 : Option Nat} (h : ChkStep s p s' q) (hp : p = p2) (hq : q = q2) :
    ChkStep s p2 s' q2 := by subst hp hq; exact h

/-- `Node::get`; a fresh node lands beyond the table, where everything looks `USED` -/
theorem stepNG_chk (s : Shared) (b : Bool) (ng : NG) (hbeyond : (s.nodes s.nNodes).inUse = nodeUsed) :
    ChkStep s ng.chk (stepNG s b ng).1 (stepNG s b ng).2.1.chk := by
  have hd := Consts.node_checking_distinct
  cases ng with
  | trav => simp only [stepNG]; cases s.head <;> exact .of_same (.refl s)
  | cc0 n =>
    simp only [stepNG]; split
    · -- the check begins: out of cooldown
      rename_i h
      refine ⟨fun m hm _ => ?_, fun m hm => ?_, fun _ hm => (nomatch hm)⟩
      · rw [setNode_nodes]; split
        · rfl
        · exact hm
      · cases hm; exact .inr ⟨rfl, by rw [h]; exact hd.2.2.symm, by rw [setNode_nodes_same]⟩
    · exact .of_same (.refl s)
  | cc1 n => exact ⟨fun _ hm _ => hm, fun m hm => by cases hm; exact .inl ⟨rfl, rfl⟩, fun _ hm => .inr hm⟩
  | cc2 n idle =>
    simp only [stepNG]; split
    · -- the check ends: only the node held is written
      refine ⟨fun m hm hne => ?_, fun _ hm => (nomatch hm), fun _ _ => .inl rfl⟩
      rw [setNode_nodes_other _ _ _ _ (fun e => hne (by rw [e]; rfl))]; exact hm
    · exact ⟨fun m hm _ => by rw [setFault_nodes]; exact hm, fun _ hm => (nomatch hm), fun _ _ => .inl rfl⟩
  | claim n =>
    simp only [stepNG]; split
    · rename_i h
      refine ⟨fun m hm _ => ?_, fun _ hm => (nomatch hm), fun _ hm => (nomatch hm)⟩
      rw [setNode_nodes_other _ _ _ _ (fun e => hd.2.1 (by rw [← hm, e, h]))]; exact hm
    · simp only [NG.afterNode]; cases (s.nodes n).next <;> exact .of_same (.refl s)
  | allocCas me h =>
    cases me with
    | some k => simp only [stepNG]; split <;> exact .of_same (USame.setNode s k (fun nd => { nd with next := h }) (fun _ => rfl))
    | none =>
      simp only [stepNG]; split <;>
        (refine .of_same (fun m => (newNode_inUse s h m).trans ?_); split
         · rename_i e; rw [e, hbeyond]
         · rfl)
  | _ => exact .of_same (.refl s)

/-- `start_cooldown`: the node sent to cooldown is the caller's own, which is `USED` -/
theorem stepCD_chk (s : Shared) (cd : CD) (hown : ∀ n, ownsCD cd = some n → (s.nodes n).inUse = nodeUsed) :
    ChkStep s none (stepCD s cd).1 none := by
  cases cd with
  | swap n =>
    simp only [stepCD]
    refine ⟨fun m hm _ => ?_, fun _ hm => (nomatch hm), fun _ hm => (nomatch hm)⟩
    rw [ite_setFault_nodes, setNode_nodes_other _ _ _ _ (fun e => Consts.node_checking_distinct.1 (by rw [← hm, e, hown n rfl]))]
    exact hm
  | done => exact .of_same (.refl s)
  | _ => simp only [stepCD]; refine .of_same ?_; exact .setNode _ _ _ (fun _ => rfl)

/-! ## The node a thread holds for its check -/

def LP.chk : LP → Option Nat
  | .get ng | .reget ng => ng.chk
  | _ => none
def PP.chk : PP → Option Nat
  | .get ng => ng.chk
  | .hload _ ld => ld.chk
  | _ => none
def CP.chk : CP → Option Nat
  | .load ld => ld.chk
  | .pay _ pp => pp.chk
  | _ => none
def RP.chk : RP → Option Nat
  | .load ld => ld.chk
  | .cas _ _ cp => cp.chk
  | _ => none
def OpSt.chk : OpSt → Option Nat
  | .load _ _ ld | .loadFull _ _ ld => ld.chk
  | .swapPay _ _ _ _ pp | .cinto _ _ _ pp | .dropc _ _ pp => pp.chk
  | .cas _ _ _ _ _ _ cp => cp.chk
  | .rcu _ _ _ rp => rp.chk
  | _ => none

theorem LP.chk_eq (lp : LP) : lp.chk = lp.nodeOp.via NG.chk := by cases lp <;> rfl
theorem PP.chk_eq (pp : PP) : pp.chk = pp.nodeOp.via NG.chk := by cases pp <;> first | rfl | exact LP.chk_eq _
theorem CP.chk_eq (cp : CP) : cp.chk = cp.nodeOp.via NG.chk := by
  cases cp <;> first | rfl | exact LP.chk_eq _ | exact PP.chk_eq _
theorem RP.chk_eq (rp : RP) : rp.chk = rp.nodeOp.via NG.chk := by
  cases rp <;> first | rfl | exact LP.chk_eq _ | exact CP.chk_eq _
theorem OpSt.chk_eq (op : OpSt) : op.chk = op.nodeOp.via NG.chk := by
  cases op <;> first | rfl | exact LP.chk_eq _ | exact PP.chk_eq _ | exact CP.chk_eq _ | exact RP.chk_eq _

theorem ChkStep.frame {s s1 s2 : Shared} {c c' : Option Nat} (h : ChkStep s c s1 c') (hn : s2.nodes = s1.nodes) :
    ChkStep s c s2 c' :=
  ⟨fun m hm hne => by rw [hn]; exact h.others m hm hne, fun m hm => by rw [hn]; exact h.mine m hm, h.one⟩

theorem microStep_chk (st : State) (t : Nat) (b : Bool) (ho : OwnInv st) :
    ChkStep st.sh (st.th t).op.chk (microStep st t b).1.sh ((microStep st t b).1.th t).op.chk := by
  have hused := ho.used t
  rw [ownsT_eq] at hused
  rw [OpSt.chk_eq, OpSt.chk_eq]
  cases microStep_nodeStep st t b with
  | get ng ho' hs hl ho'' =>
    rw [ho', ho'']
    exact ((stepNG_chk st.sh b ng (ho.beyond _ (Nat.le_refl _))).frame hs.nodes).cast rfl
      (by cases (stepNG st.sh b ng).2.1 <;> rfl)
  | cool cd ho' hs ho'' =>
    rw [ho'] at hused ⊢
    refine ((stepCD_chk st.sh cd hused).frame hs.nodes).cast rfl ?_
    rcases ho'' with ⟨e, _⟩ | ⟨_, ⟨e, _⟩ | ⟨e, _⟩⟩ <;> rw [e] <;> rfl
  | other ho' hq hl ho'' =>
    rw [ho']
    refine (ChkStep.of_same hq.inUse).cast rfl ?_
    rcases ho'' with e | ⟨e, _⟩ | ⟨n, e, _⟩ <;> rw [e] <;> rfl

/-! ## The invariant -/

/-- **a node under check is in the checking state, and is checked by one thread** -/
structure CheckInv (st : State) : Prop where
  held : ∀ t n, (st.th t).op.chk = some n → (st.sh.nodes n).inUse = nodeChecking
  excl : ∀ t t' n, t ≠ t' → (st.th t).op.chk = some n → (st.th t').op.chk ≠ some n

theorem CheckInv.initial (cfg : Cfg) (progs : Nat → List (String × Op)) : CheckInv (State.initial cfg progs) :=
  ⟨fun _ _ h => (nomatch h), fun _ _ _ _ h => (nomatch h)⟩

theorem CheckInv.step {st : State} (h : CheckInv st) (ho : OwnInv st) (u : Nat) (b : Bool) :
    CheckInv (microStep st u b).1 := by
  have hs := microStep_chk st u b ho
  have hoth : ∀ t, t ≠ u → (microStep st u b).1.th t = st.th t := fun _ h => microStep_th_other st u b h
  refine ⟨fun t n hc => ?_, fun t t' n hne h1 h2 => ?_⟩
  · by_cases htu : t = u
    · subst htu
      rcases hs.mine n hc with ⟨e1, e2⟩ | ⟨_, _, e3⟩
      · rw [e2]; exact h.held t n e1
      · exact e3
    · rw [hoth t htu] at hc
      exact hs.others n (h.held t n hc) (fun e => h.excl t u n htu hc e)
  · -- two checkers of one node: at most one of them is the stepping thread
    by_cases h1u : t = u
    · subst h1u
      have h2' : (st.th t').op.chk = some n := by rw [← hoth t' (fun e => hne e.symm)]; exact h2
      rcases hs.mine n h1 with ⟨e1, _⟩ | ⟨_, e2, _⟩
      · exact h.excl t t' n hne e1 h2'
      · exact e2 (h.held t' n h2')
    · by_cases h2u : t' = u
      · subst h2u
        have h1' : (st.th t).op.chk = some n := by rw [← hoth t h1u]; exact h1
        rcases hs.mine n h2 with ⟨e1, _⟩ | ⟨_, e2, _⟩
        · exact h.excl t t' n hne h1' e1
        · exact e2 (h.held t n h1')
      · rw [hoth t h1u] at h1; rw [hoth t' h2u] at h2
        exact h.excl t t' n hne h1 h2

theorem CheckInv.reachable {st : State} (h : Reachable st) : CheckInv st :=
  h.induct CheckInv.initial (fun _ t b hr hi => hi.step (OwnInv.reachable hr) t b)

/-- the node a thread holds for its check is nobody's: not owned, so neither used nor sent to
    cooldown by anybody, and not claimable (it is not `NODE_UNUSED`) -/
theorem checked_node_is_nobodys {st : State} (h : CheckInv st) (ho : OwnInv st) (t n : Nat)
    (hc : (st.th t).op.chk = some n) :
    (∀ t', ownsT (st.th t') ≠ some n) ∧ (st.sh.nodes n).inUse ≠ nodeUnused ∧ (st.sh.nodes n).inUse ≠ nodeCooldown := by
  have hv := h.held t n hc
  refine ⟨fun t' hown => ?_, by rw [hv]; exact Consts.node_checking_distinct.2.1, by rw [hv]; exact Consts.node_checking_distinct.2.2⟩
  have := ho.used t' n hown
  rw [hv] at this; exact Consts.node_checking_distinct.1 this

end M
