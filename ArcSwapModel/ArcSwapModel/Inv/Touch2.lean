import ArcSwapModel.Inv.Touch

/-!
# Why the object a step touches is alive: the operation's own units cover it
-/

namespace M
open Consts

/-- the three covers: a unit beyond the claims; the fallback's increment (`Inv/HazH4.lean`); the
    promotion of a confirmed borrowed guard -/
def Cov (K a : Nat) (claims : List (Nat × Nat)) (units : Nat) (lp : Option LP) : Prop :=
  claims.length + 1 ≤ units ∨ lp = some (.fokInc a) ∨
    (lp = none ∧ ∃ n i, n < K ∧ i < slotCnt ∧ (n, i) ∈ claims)

theorem Cov.mono {K a : Nat} {c1 c2 : List (Nat × Nat)} {u1 u2 : Nat} {lp : Option LP} (h : Cov K a c1 u1 lp)
    (hsub : ∀ x, x ∈ c1 → x ∈ c2) (hu : c1.length + 1 ≤ u1 → c2.length + 1 ≤ u2) : Cov K a c2 u2 lp := by
  rcases h with h | h | ⟨h1, n, i, h2, h3, h4⟩
  · exact Or.inl (hu h)
  · exact Or.inr (Or.inl h)
  · exact Or.inr (Or.inr ⟨h1, n, i, h2, h3, hsub _ h4⟩)

theorem LP.touch_cov (lp : LP) (l : Locals) (a : Nat) (h : lp.touch = some a) :
    (lp.claims a l).length + 1 ≤ uLP lp a ∨ lp = .fokInc a := by
  cases lp with
  | fokInc => simp only [LP.touch, Option.some.injEq] at h; subst h; exact .inr rfl
  | a4dec | fokDec | frDec => simp only [LP.touch, Option.some.injEq] at h; subst h; left; simp [LP.claims, uLP, u]
  | _ => cases h

theorem GD.touch_cov (gd : GD) (a : Nat) (h : gd.touch = some a) : (gd.claims a).length + 1 ≤ uGD gd a := by
  cases gd with
  | dec => simp only [GD.touch, Option.some.injEq] at h; subst h; simp [GD.claims, uGD, u]
  | _ => cases h

theorem GI.touch_cov (K r : Nat) (gi : GI) (a : Nat) (hk : gi.ok K r) (h : gi.touch = some a) :
    (gi.claims a).length + 1 ≤ uGI r gi a ∨ ∃ n i, n < K ∧ i < slotCnt ∧ (n, i) ∈ gi.claims a := by
  cases gi with
  | inc p n i =>
    simp only [GI.touch, Option.some.injEq] at h; subst h
    exact Or.inr ⟨n, i, hk.1, hk.2.1, mem_one _ rfl⟩
  | dec p => simp only [GI.touch, Option.some.injEq] at h; subst h; left; simp [GI.claims, uGI, u]
  | _ => cases h

theorem PP.touch_cov (K p : Nat) (pp : PP) (l : Locals) (a : Nat) (hk : pp.ok K) (h : pp.touch p = some a) :
    Cov K a (pp.claims a l) (uPP p pp a) pp.lp? ∨ (a = p ∧ (pp = .inc ∨ ∃ n j, pp = .slotInc n j)) := by
  cases pp with
  | inc => simp only [PP.touch, Option.some.injEq] at h; exact Or.inr ⟨h.symm, Or.inl rfl⟩
  | slotInc n j => simp only [PP.touch, Option.some.injEq] at h; exact Or.inr ⟨h.symm, Or.inr ⟨n, j, rfl⟩⟩
  | dec => simp only [PP.touch, Option.some.injEq] at h; subst h; left; left; simp [PP.claims, uPP, u]
  | hdrop x r =>
    simp only [PP.touch, Option.some.injEq] at h; subst h; left; left
    simp only [PP.claims, uPP, u, ↓reduceIte, List.length_nil]; omega
  | hload x ld =>
    left
    rcases LP.touch_cov ld l a h with h1 | h1
    · left; simp only [PP.claims, uPP]; omega
    · right; left; subst h1; rfl
  | hinto x r gi =>
    left
    rcases GI.touch_cov K r gi a hk h with h1 | ⟨n, i, h2, h3, h4⟩
    · left; simp only [PP.claims, uPP]; omega
    · exact Or.inr (Or.inr ⟨rfl, n, i, h2, h3, h4⟩)
  | _ => cases h

theorem CP.touch_cov (K cur new : Nat) (cp : CP) (l : Locals) (a : Nat) (hk : cp.ok K cur) (h : cp.touch new = some a) :
    Cov K a (cp.claims a l) (uCP new cp a) cp.lp? := by
  cases cp with
  | dropNew old =>
    simp only [CP.touch, Option.some.injEq] at h; subst h; left
    have := Guard.claims_len old new
    simp only [CP.claims, uCP, u, ↓reduceIte]; omega
  | decOld old =>
    simp only [CP.touch, Option.some.injEq] at h; subst h; left
    have := Guard.claims_len old old.ptr
    have h3 : uG old old.ptr = 1 := by simp [uG, u]
    simp only [CP.claims, uCP]; omega
  | load ld =>
    rcases LP.touch_cov ld l a h with h1 | h1
    · left; simp only [CP.claims, uCP]; omega
    · right; left; subst h1; rfl
  | pay old pp =>
    have hg := Guard.claims_len old a
    rcases PP.touch_cov K old.ptr pp l a hk.1 h with h1 | ⟨h1, h2⟩
    · refine h1.mono (fun x hx => List.mem_append_right _ hx) (fun hh => ?_)
      simp only [CP.claims, uCP, List.length_append]; omega
    · left
      have h3 : uG old a = 1 := by simp [uG, u, h1]
      have h4 : (pp.claims a l).length = 0 := by
        rcases h2 with rfl | ⟨n, j, rfl⟩ <;> rfl
      simp only [CP.claims, uCP, List.length_append]; omega
  | dropOld gd =>
    left
    have := GD.touch_cov gd a h
    simp only [CP.claims, uCP]; omega
  | _ => cases h

theorem RP.touch_cov (K : Nat) (rp : RP) (l : Locals) (a : Nat) (hk : rp.ok K) (h : rp.touch = some a) :
    Cov K a (rp.claims a l) (uRP rp a) rp.lp? := by
  cases rp with
  | load ld =>
    rcases LP.touch_cov ld l a h with h1 | h1
    · left; exact h1
    · right; left; subst h1; rfl
  | cas cur x cp =>
    have hg := Guard.claims_len cur a
    refine (CP.touch_cov K cur.ptr x cp l a hk.2 h).mono (fun y hy => List.mem_append_right _ hy) (fun hh => ?_)
    simp only [RP.claims, uRP, List.length_append]; omega
  | intoPrev cur prev gi =>
    have hg := Guard.claims_len cur a
    rcases GI.touch_cov K prev.ptr gi a hk.2 h with h1 | ⟨n, i, h2, h3, h4⟩
    · left; simp only [RP.claims, uRP, List.length_append]; omega
    · exact Or.inr (Or.inr ⟨rfl, n, i, h2, h3, List.mem_append_right _ h4⟩)
  | dropCur res gd =>
    left
    have := GD.touch_cov gd a h
    simp only [RP.claims, uRP]; omega
  | dropCurLoop prev gd =>
    left
    have hg := Guard.claims_len prev a
    have := GD.touch_cov gd a h
    simp only [RP.claims, uRP, List.length_append]; omega
  | _ => cases h

theorem OpSt.touch_cov (K : Nat) (op : OpSt) (l : Locals) (a : Nat) (hk : op.okL K) (h : op.touch = some a) :
    Cov K a (op.claims a l) (uOp op a) op.lp? ∨ (∃ c, op.consWalk c a) ∨ (∃ c, op = .dropcDec c a) := by
  cases op with
  | load c g ld | loadFull c x ld =>
    left
    rcases LP.touch_cov ld l a h with h1 | h1
    · left; exact h1
    · right; left; subst h1; rfl
  | loadFullInto c x r gi | ginto x r gi =>
    left
    rcases GI.touch_cov K r gi a hk h with h1 | ⟨n, i, h2, h3, h4⟩
    · left; exact h1
    · exact Or.inr (Or.inr ⟨rfl, n, i, h2, h3, h4⟩)
  | cloneh | droph | swapDrop =>
    simp only [OpSt.touch, Option.some.injEq] at h; subst h; left; left; simp [OpSt.claims, uOp, u]
  | dropcDec c a0 => simp only [OpSt.touch, Option.some.injEq] at h; subst h; exact Or.inr (Or.inr ⟨c, rfl⟩)
  | dropg gd => left; left; exact GD.touch_cov gd a h
  | swapPay c out old isStore pp =>
    left
    rcases PP.touch_cov K old pp l a hk h with h1 | ⟨h1, h2⟩
    · refine h1.mono (fun x hx => hx) (fun hh => ?_)
      simp only [OpSt.claims, uOp]; omega
    · left
      subst h1
      have h4 : (pp.claims a l).length = 0 := by
        rcases h2 with rfl | ⟨n, j, rfl⟩ <;> rfl
      simp only [OpSt.claims, uOp, u, ↓reduceIte]; omega
  | cinto c x p pp =>
    rcases PP.touch_cov K p pp l a hk h with h1 | ⟨h1, h2⟩
    · exact Or.inl h1
    · subst h1; exact Or.inr (Or.inl ⟨c, Or.inl ⟨x, pp, rfl⟩⟩)
  | dropc c p pp =>
    rcases PP.touch_cov K p pp l a hk h with h1 | ⟨h1, h2⟩
    · exact Or.inl h1
    · subst h1; exact Or.inr (Or.inl ⟨c, Or.inr ⟨pp, rfl⟩⟩)
  | cas c cur keep curPtr new g cp =>
    left
    have hg := gClaims_len keep a
    refine (CP.touch_cov K curPtr new cp l a hk.1 h).mono (fun y hy => List.mem_append_left _ hy) (fun hh => ?_)
    simp only [OpSt.claims, uOp, List.length_append]; omega
  | rcu c out tries rp => left; exact RP.touch_cov K rp l a hk h
  | _ => cases h

end M
