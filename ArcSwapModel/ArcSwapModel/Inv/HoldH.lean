import ArcSwapModel.Inv.Hold

/-!
# Every occupied helping slot has a holder

The helping slot of a node is written by its owner alone (`confirm`, `LP.f4`) and cleared by the
owner's `pay` or by a writer that pays it off.  While it names a value, the owner's load is between
`confirm` and its own `pay`.  `HHoldInv`, for every reachable fault-free state; with `HoldInv` it
gives the slots part of quiescence (`C02`: no borrow slot stays occupied).

The proof has the shape of `HoldInv`'s: `SlotsStep` for the slot, and a load that holds the slot keeps
holding it as long as the slot names the value (`stepLP_hholds` … `microStep_hheld`).
-/

namespace M
open Consts

def LP.hholds (n a : Nat) (l : Locals) : LP → Prop
  | .f5 _ cand | .fokInc cand | .fokPay cand | .fr1 cand _ | .fr2 cand _ _ | .frPay cand _ => l.node = some n ∧ cand = a
  | _ => False

def PP.hholds (n a : Nat) (l : Locals) : PP → Prop
  | .hload _ ld => ld.hholds n a l
  | _ => False

def CP.hholds (n a : Nat) (l : Locals) : CP → Prop
  | .load ld => ld.hholds n a l
  | .pay _ pp => pp.hholds n a l
  | _ => False

def RP.hholds (n a : Nat) (l : Locals) : RP → Prop
  | .load ld => ld.hholds n a l
  | .cas _ _ cp => cp.hholds n a l
  | _ => False

def OpSt.hholds (n a : Nat) (l : Locals) : OpSt → Prop
  | .load _ _ ld | .loadFull _ _ ld => ld.hholds n a l
  | .swapPay _ _ _ _ pp | .cinto _ _ _ pp | .dropc _ _ pp => pp.hholds n a l
  | .cas _ _ _ _ _ _ cp => cp.hholds n a l
  | .rcu _ _ _ rp => rp.hholds n a l
  | _ => False

theorem incObj_hslot (s : Shared) (a m : Nat) : ((incObj s a).1.nodes m).hslot = (s.nodes m).hslot := by
  rw [incObj_nodes]
theorem decObj_hslot (s : Shared) (a m : Nat) : ((decObj s a).1.nodes m).hslot = (s.nodes m).hslot := by
  rw [decObj_nodes]

theorem LP.done_hholds (p : Nat) (d : Option (Nat × Nat)) (l : Locals) (n a : Nat) : ¬ (LP.done p d).hholds n a l := fun h => h

/-! ## A holder stays one as long as the slot names the value -/

theorem stepLP_hholds (cfg : Cfg) (c : Nat) (s : Shared) (l : Locals) (b : Bool) (lp : LP) {n a : Nat}
    (hf : (stepLP cfg c s l b lp).1.fault = none) (h : lp.hholds n a l ∨ Fills l (some lp) n none a)
    (hs : ((stepLP cfg c s l b lp).1.nodes n).hslot = .ptr a) :
    (stepLP cfg c s l b lp).2.2.1.hholds n a (stepLP cfg c s l b lp).2.1 := by
  cases lp with
  | f4 g cand => obtain ⟨hn, rfl⟩ := h.resolve_left id; exact ⟨hn, rfl⟩
  | f5 g cand =>
    obtain ⟨hn, rfl⟩ := h.resolve_right id
    simp only [stepLP] at hf ⊢
    split
    · split <;> exact ⟨hn, rfl⟩
    · rename_i hx; simp only [hx, ↓reduceIte] at hf
      split
      · exact ⟨hn, rfl⟩
      · rename_i hy; split at hf
        · rename_i j hj; exact absurd hj (hy j)
        · exact absurd hf (setFault_ne_none _ _)
  | fr1 cand j =>
    replace h := h.resolve_right id
    simp only [stepLP] at hf ⊢; split
    · exact h
    · rename_i hr; simp only [hr] at hf; exact absurd hf (setFault_ne_none _ _)
  | fokInc cand | fr2 cand j r => exact h.resolve_right id
  | fokPay cand | frPay cand _ =>
    obtain ⟨hn, rfl⟩ := h.resolve_right id
    simp only [stepLP, hn, Option.getD_some] at hs
    split at hs
    · simp only [setNode_nodes_same, reduceCtorEq] at hs
    · rename_i hc; exact absurd hs hc
  | _ => exact (h.elim id id).elim

theorem PP.afterLoad_hholds {x : HL} {ld : LP} {n a : Nat} {l : Locals} (h : ld.hholds n a l) :
    (PP.afterLoad x ld).hholds n a l := by
  cases ld <;> first | exact h.elim | exact h

theorem stepPP_hholds (cfg : Cfg) (p c : Nat) (s : Shared) (l : Locals) (b : Bool) (pp : PP) {n a : Nat}
    (hf : (stepPP cfg p c s l b pp).1.fault = none) (h : pp.hholds n a l ∨ Fills l pp.lp? n none a)
    (hs : ((stepPP cfg p c s l b pp).1.nodes n).hslot = .ptr a) :
    (stepPP cfg p c s l b pp).2.2.1.hholds n a (stepPP cfg p c s l b pp).2.1 := by
  cases pp with
  | hload x ld => rw [stepPP_hload] at hf hs ⊢; exact PP.afterLoad_hholds (stepLP_hholds cfg c s l b ld hf h hs)
  | _ => exact (h.elim id id).elim

theorem CP.afterLoad_hholds {cur new : Nat} {ld : LP} {n a : Nat} {l : Locals} (h : ld.hholds n a l) :
    (CP.afterLoad cur new ld).hholds n a l := by
  cases ld <;> first | exact h.elim | exact h

theorem CP.afterPay_hholds {old : Guard} {pp : PP} {n a : Nat} {l : Locals} (h : pp.hholds n a l) :
    (CP.afterPay old pp).hholds n a l := by
  cases pp <;> first | exact h.elim | exact h

theorem stepCP_hholds (cfg : Cfg) (c cur new : Nat) (s : Shared) (l : Locals) (b : Bool) (cp : CP) {n a : Nat}
    (hf : (stepCP cfg c cur new s l b cp).1.fault = none) (h : cp.hholds n a l ∨ Fills l cp.lp? n none a)
    (hs : ((stepCP cfg c cur new s l b cp).1.nodes n).hslot = .ptr a) :
    (stepCP cfg c cur new s l b cp).2.2.1.hholds n a (stepCP cfg c cur new s l b cp).2.1 := by
  cases cp with
  | load ld => rw [stepCP_load] at hf hs ⊢; exact CP.afterLoad_hholds (stepLP_hholds cfg c s l b ld hf h hs)
  | pay old pp => rw [stepCP_pay] at hf hs ⊢; exact CP.afterPay_hholds (stepPP_hholds cfg old.ptr c s l b pp hf h hs)
  | _ => exact (h.elim id id).elim

theorem RP.afterLoad_hholds {ld : LP} {n a : Nat} {l : Locals} (h : ld.hholds n a l) :
    (RP.afterLoad ld).hholds n a l := by
  cases ld <;> first | exact h.elim | exact h

theorem RP.afterCas_hholds {cur : Guard} {x : Nat} {cp : CP} {n a : Nat} {l : Locals} (h : cp.hholds n a l) :
    (RP.afterCas cur x cp).hholds n a l := by
  cases cp <;> first | exact h.elim | exact h

theorem stepRP_hholds (cfg : Cfg) (c : Nat) (s : Shared) (l : Locals) (b : Bool) (tries : Nat) (rp : RP) {n a : Nat}
    (hf : (stepRP cfg c s l b tries rp).1.fault = none) (h : rp.hholds n a l ∨ Fills l rp.lp? n none a)
    (hs : ((stepRP cfg c s l b tries rp).1.nodes n).hslot = .ptr a) :
    (stepRP cfg c s l b tries rp).2.2.1.hholds n a (stepRP cfg c s l b tries rp).2.1 := by
  cases rp with
  | load ld => rw [stepRP_load] at hf hs ⊢; exact RP.afterLoad_hholds (stepLP_hholds cfg c s l b ld hf h hs)
  | cas cur x cp =>
    rw [stepRP_cas] at hf hs ⊢; exact RP.afterCas_hholds (stepCP_hholds cfg c cur.ptr x s l b cp hf h hs)
  | _ => exact (h.elim id id).elim

theorem OpSt.next_hholds (cfg : Cfg) (s : Shared) (l : Locals) (b : Bool) (op : OpSt) {n a : Nat}
    (hf : (op.core cfg s l b).fault = none) (h : op.hholds n a l ∨ Fills l op.lp? n none a)
    (hs : ((op.core cfg s l b).nodes n).hslot = .ptr a) : (op.next cfg s l b).1.hholds n a (op.next cfg s l b).2 := by
  cases op with
  | load c _ ld | loadFull c _ ld =>
    have h1 := stepLP_hholds cfg c s l b ld hf h hs
    simp only [OpSt.next]
    generalize (stepLP cfg c s l b ld).2.2.1 = ld' at h1
    cases ld' <;> first | exact h1.elim | exact h1
  | swapPay c _ p _ pp | cinto c _ p pp | dropc c p pp =>
    have h1 := stepPP_hholds cfg p c s l b pp hf h hs
    simp only [OpSt.next]
    generalize (stepPP cfg p c s l b pp).2.2.1 = pp' at h1
    cases pp' <;> first | exact h1.elim | exact h1
  | cas c cur keep curPtr new g cp =>
    have h1 := stepCP_hholds cfg c curPtr new s l b cp hf h hs
    simp only [OpSt.next]
    generalize (stepCP cfg c curPtr new s l b cp).2.2.1 = cp' at h1
    cases cp' <;> first | exact h1.elim | exact h1
  | rcu c out tries rp =>
    have h1 := stepRP_hholds cfg c s l b tries rp hf h hs
    simp only [OpSt.next]
    generalize (stepRP cfg c s l b tries rp).2.2.1 = rp' at h1
    cases rp' <;> first | exact h1.elim | exact h1
  | _ => exact (h.elim id id).elim

theorem microStep_hheld (st : State) (t : Nat) (b : Bool) {n a : Nat} (hf : (microStep st t b).1.sh.fault = none)
    (h : (st.th t).op.hholds n a (st.th t).loc ∨ Fills (st.th t).loc (st.th t).op.lp? n none a)
    (hs : ((microStep st t b).1.sh.nodes n).hslot = .ptr a) :
    ((microStep st t b).1.th t).op.hholds n a ((microStep st t b).1.th t).loc := by
  by_cases hi : (st.th t).op = .idle
  · rw [hi] at h; exact (h.elim id id).elim
  · have hc := microStep_core st t b hi
    obtain ⟨ho, hl, _⟩ := microStep_next st t b hi
    rw [hc.nodes] at hs; rw [hc.fault] at hf; rw [ho, hl]
    exact OpSt.next_hholds _ _ _ _ _ hf h hs

/-- a step of thread `t` and the helping slots -/
def HHStep (st st' : State) (t : Nat) : Prop :=
  ∀ n a, ((st'.sh.nodes n).hslot = .ptr a) →
    (((st.sh.nodes n).hslot = .ptr a) ∧
      ((st.th t).op.hholds n a (st.th t).loc → (st'.th t).op.hholds n a (st'.th t).loc)) ∨
    (st'.th t).op.hholds n a (st'.th t).loc

theorem microStep_hhold (st : State) (t : Nat) (b : Bool) (hb : Beyond st.sh)
    (hk : (st.th t).op.okN st.sh (st.th t).loc)
    (hf : (microStep st t b).1.sh.fault = none) : HHStep st (microStep st t b).1 t := by
  intro n a hs'
  rcases microStep_slots st t b hb hk n none with e | e | ⟨p, e, hp⟩
  · exact Or.inl ⟨e.symm.trans hs', fun hh => microStep_hheld st t b hf (Or.inl hh) hs'⟩
  · cases e.symm.trans hs'
  · cases e.symm.trans hs'; exact Or.inr (microStep_hheld st t b hf (Or.inr hp) hs')

/-- **every occupied helping slot has a holder**: the owner's load, between `confirm` and `pay` -/
def HHoldInv (st : State) : Prop :=
  ∀ n a, (st.sh.nodes n).hslot = .ptr a → ∃ t, (st.th t).op.hholds n a (st.th t).loc

theorem HHoldInv.initial (cfg : Cfg) (progs : Nat → List (String × Op)) : HHoldInv (State.initial cfg progs) := by
  intro n a h; cases h

theorem HHoldInv.step {st : State} (h : HHoldInv st) (hn : NodeInv st) (t : Nat) (b : Bool)
    (hf : (microStep st t b).1.sh.fault = none) : HHoldInv (microStep st t b).1 := by
  intro n a hslot
  rcases microStep_hhold st t b hn.nodes.slots (hn.th t) hf n a hslot with ⟨h1, h2⟩ | h2
  · obtain ⟨u, hu⟩ := h n a h1
    by_cases hut : u = t
    · subst hut; exact ⟨u, h2 hu⟩
    · exact ⟨u, by rw [microStep_th_other st t b hut]; exact hu⟩
  · exact ⟨t, h2⟩

/-- **the helping-slot invariant holds in every reachable state without a fault** -/
theorem HHoldInv.reachable {st : State} (h : Reachable st) (hf : st.sh.fault = none) : HHoldInv st :=
  Reachable.induct (P := fun st => st.sh.fault = none → HHoldInv st) (fun cfg progs _ => HHoldInv.initial cfg progs)
    (fun st t b hr ih hf => (ih (microStep_fault_mono st t b hf)).step (NodeInv.reachable hr) t b hf) h hf

theorem HHoldInv.rest {st : State} (h : HHoldInv st)
    (hidle : ∀ t, (st.th t).op = .idle ∨ (st.th t).op = .finished) (n a : Nat) :
    (st.sh.nodes n).hslot ≠ .ptr a := by
  intro hs
  obtain ⟨t, ht⟩ := h n a hs
  rcases hidle t with e | e <;> (rw [e] at ht; exact ht)

theorem PP.hholds_lp {pp : PP} {n a : Nat} {l : Locals} (h : pp.hholds n a l) : ∃ ld, pp.lp? = some ld ∧ ld.hholds n a l := by
  cases pp <;> first | exact h.elim | exact ⟨_, rfl, h⟩
theorem CP.hholds_lp {cp : CP} {n a : Nat} {l : Locals} (h : cp.hholds n a l) : ∃ ld, cp.lp? = some ld ∧ ld.hholds n a l := by
  cases cp <;> first | exact h.elim | exact ⟨_, rfl, h⟩ | exact PP.hholds_lp h
theorem RP.hholds_lp {rp : RP} {n a : Nat} {l : Locals} (h : rp.hholds n a l) : ∃ ld, rp.lp? = some ld ∧ ld.hholds n a l := by
  cases rp <;> first | exact h.elim | exact ⟨_, rfl, h⟩ | exact CP.hholds_lp h
/-- the holder of a helping slot is the innermost load of its thread -/
theorem OpSt.hholds_lp {op : OpSt} {n a : Nat} {l : Locals} (h : op.hholds n a l) : ∃ ld, op.lp? = some ld ∧ ld.hholds n a l := by
  cases op <;> first | exact h.elim | exact ⟨_, rfl, h⟩ | exact PP.hholds_lp h | exact CP.hholds_lp h | exact RP.hholds_lp h

/-- the holder of a helping slot owns the node -/
theorem owns_of_hholds (th : Thread) (n a : Nat) (h : th.op.hholds n a th.loc) : ownsT th = some n := by
  obtain ⟨ld, h1, h2⟩ := OpSt.hholds_lp h
  rw [ownsT_of_lp th ld h1]
  cases ld <;> first | exact h2.elim | exact h2.1

/-- **C13 `confirm: slot not NONE`, the value part**: when a thread that owns node `n` is not the
    holder of its helping slot (in particular at `LP.f4`, about to publish into it), the slot names
    no value — the holder would be another thread owning the same node. -/
theorem hslot_free_unless_held {st : State} (h : HHoldInv st) (ho : OwnInv st) (t n : Nat)
    (hown : ownsT (st.th t) = some n) (a : Nat) (hnot : ¬ (st.th t).op.hholds n a (st.th t).loc) :
    (st.sh.nodes n).hslot ≠ .ptr a := by
  intro hs
  obtain ⟨u, hu⟩ := h n a hs
  by_cases hut : u = t
  · subst hut; exact hnot hu
  · exact ho.excl u t n hut (owns_of_hholds _ n a hu) hown

end M
