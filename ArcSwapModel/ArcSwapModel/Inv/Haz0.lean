import ArcSwapModel.Inv.Walk

/-!
# Tools for the hazard invariant: how the innermost load and the walk of a thread move on

Forward lemmas: a thread with a load in progress steps that load (`microStep_lp`); a thread that is
walking the list for a value steps that walk (`microStep_walk_step`).
-/

namespace M
open Consts

/-! ## The walk, forward -/

theorem stepCP_walk_fwd (cfg : Cfg) (c cur new : Nat) (s : Shared) (l : Locals) (b : Bool) (cp : CP) (a : Nat) (pp : PP)
    (h : cp.walk? = some (a, pp)) :
    (stepCP cfg c cur new s l b cp).1 = (stepPP cfg a c s l b pp).1 ∧
      (stepCP cfg c cur new s l b cp).2.1 = (stepPP cfg a c s l b pp).2.1 ∧
      ((stepCP cfg c cur new s l b cp).2.2.1.walk? = some (a, (stepPP cfg a c s l b pp).2.2.1) ∨
        (stepPP cfg a c s l b pp).2.2.1 = .done) := by
  cases cp with
  | pay old pp0 =>
    cases h
    rw [stepCP_pay]
    refine ⟨rfl, rfl, ?_⟩
    rw [CP.afterPay_walk]
    split
    · exact Or.inr ‹_›
    · exact Or.inl rfl
  | _ => cases h

theorem stepRP_walk_fwd (cfg : Cfg) (c : Nat) (s : Shared) (l : Locals) (b : Bool) (tries : Nat) (rp : RP) (a : Nat) (pp : PP)
    (h : rp.walk? = some (a, pp)) :
    (stepRP cfg c s l b tries rp).1 = (stepPP cfg a c s l b pp).1 ∧
      (stepRP cfg c s l b tries rp).2.1 = (stepPP cfg a c s l b pp).2.1 ∧
      ((stepRP cfg c s l b tries rp).2.2.1.walk? = some (a, (stepPP cfg a c s l b pp).2.2.1) ∨
        (stepPP cfg a c s l b pp).2.2.1 = .done) := by
  cases rp with
  | cas cur x cp =>
    rw [stepRP_cas, RP.afterCas_walk]
    exact stepCP_walk_fwd cfg c cur.ptr x s l b cp a pp h
  | _ => cases h

theorem OpSt.next_walk_fwd (cfg : Cfg) (s : Shared) (l : Locals) (b : Bool) (op : OpSt) (a : Nat) (pp : PP)
    (h : op.walkC? = some (a, pp)) :
    ∃ c, op.cell? = some c ∧ op.core cfg s l b = (stepPP cfg a c s l b pp).1 ∧
      (op.cons = false → op.cellsNext cfg s l b = (stepPP cfg a c s l b pp).1.cells) ∧
      (op.next cfg s l b).2 = (stepPP cfg a c s l b pp).2.1 ∧
      ((op.next cfg s l b).1.walkC? = some (a, (stepPP cfg a c s l b pp).2.2.1) ∨
        (stepPP cfg a c s l b pp).2.2.1 = .done) := by
  cases op with
  | swapPay c _ _ _ pp0 | cinto c _ _ pp0 | dropc c _ pp0 =>
    cases h
    refine ⟨c, rfl, rfl, fun hn => (by first | rfl | cases hn), rfl, ?_⟩
    simp only [OpSt.next]
    split
    · exact Or.inr ‹_›
    · exact Or.inl rfl
  | cas c cur keep curPtr new g cp =>
    obtain ⟨h1, h2, h3⟩ := stepCP_walk_fwd cfg c curPtr new s l b cp a pp h
    refine ⟨c, rfl, h1, fun _ => congrArg Shared.cells h1, h2, h3.imp (fun h3 => ?_) id⟩
    simp only [OpSt.next]
    generalize (stepCP cfg c curPtr new s l b cp).2.2.1 = x at h3
    cases x <;> first | exact h3 | cases h3
  | rcu c out tries rp =>
    obtain ⟨h1, h2, h3⟩ := stepRP_walk_fwd cfg c s l b tries rp a pp h
    refine ⟨c, rfl, h1, fun _ => congrArg Shared.cells h1, h2, h3.imp (fun h3 => ?_) id⟩
    simp only [OpSt.next]
    generalize (stepRP cfg c s l b tries rp).2.2.1 = x at h3
    cases x <;> first | exact h3 | cases h3
  | _ => cases h

/-- **a thread that is walking the list for `a` (for whatever reason) steps that walk**: the core of the shared
    state afterwards is that of `pay_all`'s step on the container the thread works on, so are the cells unless
    the thread is destroying the container, and the thread is still walking for `a` unless the walk has ended -/
theorem microStep_walk_step (st : State) (t : Nat) (b : Bool) (a : Nat) (pp : PP)
    (h : (st.th t).op.walkC? = some (a, pp)) :
    ∃ c, (st.th t).op.cell? = some c ∧
      CoreEq (stepPP st.cfg a c st.sh (st.th t).loc b pp).1 (microStep st t b).1.sh ∧
      ((st.th t).op.cons = false → (microStep st t b).1.sh.cells = (stepPP st.cfg a c st.sh (st.th t).loc b pp).1.cells) ∧
      ((microStep st t b).1.th t).loc = (stepPP st.cfg a c st.sh (st.th t).loc b pp).2.1 ∧
      (((microStep st t b).1.th t).op.walkC? = some (a, (stepPP st.cfg a c st.sh (st.th t).loc b pp).2.2.1) ∨
        (stepPP st.cfg a c st.sh (st.th t).loc b pp).2.2.1 = .done) := by
  have hni : (st.th t).op ≠ .idle := fun e => by rw [e] at h; cases h
  obtain ⟨ho, hl, hcells, _⟩ := microStep_next st t b hni
  obtain ⟨c, h0, h1, h2, h3, h4⟩ := OpSt.next_walk_fwd st.cfg st.sh (st.th t).loc b _ a pp h
  exact ⟨c, h0, h1 ▸ microStep_core st t b hni, fun hn => hcells.trans (h2 hn), hl.trans h3, ho ▸ h4⟩

theorem microStep_walkC_fwd (st : State) (t : Nat) (b : Bool) (a : Nat) (pp : PP)
    (h : (st.th t).op.walkC? = some (a, pp)) :
    ∃ c, (microStep st t b).1.sh.nodes = (stepPP st.cfg a c st.sh (st.th t).loc b pp).1.nodes ∧
      ((microStep st t b).1.th t).loc = (stepPP st.cfg a c st.sh (st.th t).loc b pp).2.1 ∧
      (((microStep st t b).1.th t).op.walkC? = some (a, (stepPP st.cfg a c st.sh (st.th t).loc b pp).2.2.1) ∨
        (stepPP st.cfg a c st.sh (st.th t).loc b pp).2.2.1 = .done) ∧
      (microStep st t b).1.sh.head = (stepPP st.cfg a c st.sh (st.th t).loc b pp).1.head := by
  obtain ⟨c, _, hc, _, hl, hor⟩ := microStep_walk_step st t b a pp h
  exact ⟨c, hc.nodes, hl, hor, hc.head⟩

/-! ## The innermost load, forward -/

theorem stepPP_lp (cfg : Cfg) (p c : Nat) (s : Shared) (l : Locals) (b : Bool) (pp : PP) (lp : LP)
    (h : pp.lp? = some lp) :
    (stepPP cfg p c s l b pp).1 = (stepLP cfg c s l b lp).1 ∧
      (stepPP cfg p c s l b pp).2.1 = (stepLP cfg c s l b lp).2.1 ∧
      ((stepPP cfg p c s l b pp).2.2.1.lp? = some (stepLP cfg c s l b lp).2.2.1 ∨
        ∃ q d, (stepLP cfg c s l b lp).2.2.1 = .done q d) := by
  cases pp with
  | hload x ld => cases h; rw [stepPP_hload]; exact ⟨rfl, rfl, PP.afterLoad_lp ..⟩
  | _ => cases h

/-- a walk does not end with the step of a nested load -/
theorem stepPP_lp_ne_done (cfg : Cfg) (p c : Nat) (s : Shared) (l : Locals) (b : Bool) (pp : PP) (lp : LP)
    (h : pp.lp? = some lp) : (stepPP cfg p c s l b pp).2.2.1 ≠ .done := by
  cases pp with
  | hload x ld =>
    rw [stepPP_hload]
    generalize (stepLP cfg c s l b ld).2.2.1 = ld'
    cases ld' <;> simp only [PP.afterLoad] <;> (try split) <;> exact PP.noConfusion
  | _ => cases h

theorem stepCP_lp (cfg : Cfg) (c cur new : Nat) (s : Shared) (l : Locals) (b : Bool) (cp : CP) (lp : LP)
    (h : cp.lp? = some lp) :
    (stepCP cfg c cur new s l b cp).1 = (stepLP cfg c s l b lp).1 ∧
      (stepCP cfg c cur new s l b cp).2.1 = (stepLP cfg c s l b lp).2.1 ∧
      ((stepCP cfg c cur new s l b cp).2.2.1.lp? = some (stepLP cfg c s l b lp).2.2.1 ∨
        ∃ q d, (stepLP cfg c s l b lp).2.2.1 = .done q d) := by
  cases cp with
  | load ld => cases h; rw [stepCP_load]; exact ⟨rfl, rfl, CP.afterLoad_lp ..⟩
  | pay old pp => rw [stepCP_pay, CP.afterPay_lp]; exact stepPP_lp cfg old.ptr c s l b pp lp h
  | _ => cases h

theorem stepRP_lp (cfg : Cfg) (c : Nat) (s : Shared) (l : Locals) (b : Bool) (tries : Nat) (rp : RP) (lp : LP)
    (h : rp.lp? = some lp) :
    (stepRP cfg c s l b tries rp).1 = (stepLP cfg c s l b lp).1 ∧
      (stepRP cfg c s l b tries rp).2.1 = (stepLP cfg c s l b lp).2.1 ∧
      ((stepRP cfg c s l b tries rp).2.2.1.lp? = some (stepLP cfg c s l b lp).2.2.1 ∨
        ∃ q d, (stepLP cfg c s l b lp).2.2.1 = .done q d) := by
  cases rp with
  | load ld => cases h; rw [stepRP_load]; exact ⟨rfl, rfl, RP.afterLoad_lp ..⟩
  | cas cur x cp => rw [stepRP_cas, RP.afterCas_lp]; exact stepCP_lp cfg c cur.ptr x s l b cp lp h
  | _ => cases h

theorem OpSt.next_lp (cfg : Cfg) (s : Shared) (l : Locals) (b : Bool) (op : OpSt) (lp : LP) (h : op.lp? = some lp) :
    ∃ c, op.cell? = some c ∧ op.core cfg s l b = (stepLP cfg c s l b lp).1 ∧
      op.cellsNext cfg s l b = (stepLP cfg c s l b lp).1.cells ∧
      (op.next cfg s l b).2 = (stepLP cfg c s l b lp).2.1 ∧
      ((op.next cfg s l b).1.lp? = some (stepLP cfg c s l b lp).2.2.1 ∨
        ∃ q d, (stepLP cfg c s l b lp).2.2.1 = .done q d) := by
  cases op with
  | load c g ld =>
    cases h
    refine ⟨c, rfl, rfl, rfl, rfl, ?_⟩
    simp only [OpSt.next]
    generalize (stepLP cfg c s l b lp).2.2.1 = x
    cases x <;> first | exact Or.inl rfl | exact Or.inr ⟨_, _, rfl⟩
  | loadFull c g ld =>
    cases h
    refine ⟨c, rfl, rfl, rfl, rfl, ?_⟩
    simp only [OpSt.next]
    generalize (stepLP cfg c s l b lp).2.2.1 = x
    cases x <;> first | exact Or.inl rfl | exact Or.inr ⟨_, _, rfl⟩
  | swapPay c out old isStore pp =>
    obtain ⟨h1, h2, h3⟩ := stepPP_lp cfg old c s l b pp lp h
    refine ⟨c, rfl, h1, congrArg Shared.cells h1, h2, h3.imp (fun h3 => ?_) id⟩
    simp only [OpSt.next]
    generalize (stepPP cfg old c s l b pp).2.2.1 = x at h3
    cases x <;> first | exact h3 | cases h3
  | cinto c y p pp =>
    obtain ⟨h1, h2, h3⟩ := stepPP_lp cfg p c s l b pp lp h
    refine ⟨c, rfl, h1, ?_, h2, h3.imp (fun h3 => ?_) id⟩
    · simp only [OpSt.cellsNext, if_neg (stepPP_lp_ne_done cfg p c s l b pp lp h)]; exact congrArg Shared.cells h1
    · simp only [OpSt.next]
      generalize (stepPP cfg p c s l b pp).2.2.1 = x at h3
      cases x <;> first | exact h3 | cases h3
  | dropc c p pp =>
    obtain ⟨h1, h2, h3⟩ := stepPP_lp cfg p c s l b pp lp h
    refine ⟨c, rfl, h1, ?_, h2, h3.imp (fun h3 => ?_) id⟩
    · simp only [OpSt.cellsNext, if_neg (fun e : _ ∧ p = 0 => stepPP_lp_ne_done cfg p c s l b pp lp h e.1)]
      exact congrArg Shared.cells h1
    · simp only [OpSt.next]
      generalize (stepPP cfg p c s l b pp).2.2.1 = x at h3
      cases x <;> first | exact h3 | cases h3
  | cas c cur keep curPtr new g cp =>
    obtain ⟨h1, h2, h3⟩ := stepCP_lp cfg c curPtr new s l b cp lp h
    refine ⟨c, rfl, h1, congrArg Shared.cells h1, h2, h3.imp (fun h3 => ?_) id⟩
    simp only [OpSt.next]
    generalize (stepCP cfg c curPtr new s l b cp).2.2.1 = x at h3
    cases x <;> first | exact h3 | cases h3
  | rcu c out tries rp =>
    obtain ⟨h1, h2, h3⟩ := stepRP_lp cfg c s l b tries rp lp h
    refine ⟨c, rfl, h1, congrArg Shared.cells h1, h2, h3.imp (fun h3 => ?_) id⟩
    simp only [OpSt.next]
    generalize (stepRP cfg c s l b tries rp).2.2.1 = x at h3
    cases x <;> first | exact h3 | cases h3
  | _ => cases h

/-- **a thread with a load in progress steps that load**: nodes, head and cells afterwards are
    those of the load's step, and so are the thread's locals and (unless the load has ended) its
    innermost load -/
theorem microStep_lp (st : State) (t : Nat) (b : Bool) (lp : LP) (h : (st.th t).op.lp? = some lp) :
    ∃ c, (st.th t).op.cell? = some c ∧
      (microStep st t b).1.sh.nodes = (stepLP st.cfg c st.sh (st.th t).loc b lp).1.nodes ∧
      (microStep st t b).1.sh.cells = (stepLP st.cfg c st.sh (st.th t).loc b lp).1.cells ∧
      ((microStep st t b).1.th t).loc = (stepLP st.cfg c st.sh (st.th t).loc b lp).2.1 ∧
      (((microStep st t b).1.th t).op.lp? = some (stepLP st.cfg c st.sh (st.th t).loc b lp).2.2.1 ∨
        ∃ q d, (stepLP st.cfg c st.sh (st.th t).loc b lp).2.2.1 = .done q d) := by
  have hni : (st.th t).op ≠ .idle := fun e => by rw [e] at h; cases h
  obtain ⟨ho, hl, hcells, _⟩ := microStep_next st t b hni
  obtain ⟨c, h0, h1, h2, h3, h4⟩ := OpSt.next_lp st.cfg st.sh (st.th t).loc b _ lp h
  exact ⟨c, h0, (microStep_core st t b hni).nodes.trans (congrArg _ h1), hcells.trans h2, hl.trans h3, ho ▸ h4⟩

end M
