import ArcSwapModel.Inv.SlotStep

/-!
# Every occupied debt slot has a holder

A fast slot that names a value is occupied on behalf of somebody: a guard (in a register or inside
an operation in flight) whose debt is that very slot, or a load that has published its debt there
and is about to confirm it.  `HoldInv`, along every fault-free execution that keeps the register
discipline (`RegRun`).  Consequences: when no guard with a debt exists and no operation is in
flight, every fast slot is empty ("no borrow slot stays occupied after its guard is gone", C02);
with the ledger, the strong counts are then exactly the number of owners.

The proof: a step changes a fast slot only by clearing it or by the owner's swap (`SlotsStep`), and
a holder whose step leaves the value in the slot is still a holder afterwards (`stepLP_holds` …
`microStep_held`): it gives up holding only by paying the slot off.
-/

namespace M
open Consts

def Guard.holds (n i a : Nat) (g : Guard) : Prop := g.ptr = a ∧ g.debt = some (n, i)

def LP.holds (n i a : Nat) (l : Locals) : LP → Prop
  | .a3 p idx | .a4 p idx => l.node = some n ∧ idx = i ∧ p = a
  | .done p d => p = a ∧ d = some (n, i)
  | _ => False

def GD.holds (n i a : Nat) : GD → Prop
  | .pay p n' i' => p = a ∧ n' = n ∧ i' = i
  | _ => False

def GI.holds (n i a : Nat) : GI → Prop
  | .inc p n' i' | .pay p n' i' => p = a ∧ n' = n ∧ i' = i
  | _ => False

def PP.holds (n i a : Nat) (l : Locals) : PP → Prop
  | .hload _ ld => ld.holds n i a l
  | .hinto _ _ gi => gi.holds n i a
  | _ => False

def CP.holds (n i a : Nat) (l : Locals) : CP → Prop
  | .load ld => ld.holds n i a l
  | .dropNew old | .cx old | .decOld old | .done old => old.holds n i a
  | .pay old pp => old.holds n i a ∨ pp.holds n i a l
  | .dropOld gd => gd.holds n i a

def RP.holds (n i a : Nat) (l : Locals) : RP → Prop
  | .load ld => ld.holds n i a l
  | .attempt cur => cur.holds n i a
  | .cas cur _ cp => cur.holds n i a ∨ cp.holds n i a l
  | .intoPrev cur _ gi => cur.holds n i a ∨ gi.holds n i a
  | .dropCur _ gd => gd.holds n i a
  | .dropCurLoop prev gd => prev.holds n i a ∨ gd.holds n i a
  | .done _ => False

def OpSt.holds (n i a : Nat) (l : Locals) : OpSt → Prop
  | .load _ _ ld | .loadFull _ _ ld => ld.holds n i a l
  | .loadFullInto _ _ _ gi | .ginto _ _ gi => gi.holds n i a
  | .dropg gd => gd.holds n i a
  | .swapPay _ _ _ _ pp | .cinto _ _ _ pp | .dropc _ _ pp => pp.holds n i a l
  | .cas _ _ keep _ _ _ cp => cp.holds n i a l ∨ (∃ cg, keep = some cg ∧ cg.holds n i a)
  | .rcu _ _ _ rp => rp.holds n i a l
  | _ => False

theorem fast_setNode_frame (s : Shared) (n : Nat) (f : Node → Node) (hf : ∀ nd, (f nd).fast = nd.fast) (m : Nat) :
    ((s.setNode n f).nodes m).fast = (s.nodes m).fast := setNode_proj (·.fast) s n m f hf

theorem incObj_fast (s : Shared) (a m : Nat) : ((incObj s a).1.nodes m).fast = (s.nodes m).fast := by
  rw [incObj_nodes]
theorem decObj_fast (s : Shared) (a m : Nat) : ((decObj s a).1.nodes m).fast = (s.nodes m).fast := by
  rw [decObj_nodes]

/-! ## A holder stays one as long as the slot names the value -/

theorem GD.ofGuard_holds (g : Guard) (n i a : Nat) (h : g.holds n i a) : (GD.ofGuard g).holds n i a := by
  obtain ⟨h1, h2⟩ := h
  simp only [GD.ofGuard, h2, GD.holds, h1, and_self]

theorem GI.ofGuard_holds (g : Guard) (n i a : Nat) (h : g.holds n i a) : (GI.ofGuard g).holds n i a := by
  obtain ⟨h1, h2⟩ := h
  simp only [GI.ofGuard, h2]
  split <;> exact ⟨h1, rfl, rfl⟩

theorem GD.not_holds_of_done {g : Guard} (hd : GD.ofGuard g = .done) (n i a : Nat) : ¬ g.holds n i a :=
  fun h => by have := GD.ofGuard_holds g n i a h; rw [hd] at this; exact this

theorem GI.not_holds_of_done {g : Guard} (hd : GI.ofGuard g = .done) (n i a : Nat) : ¬ g.holds n i a :=
  fun h => by have := GI.ofGuard_holds g n i a h; rw [hd] at this; exact this

/-- after `Debt::pay` the slot does not name the value, whether the exchange succeeded or not -/
theorem pay_not_named {α : Type} (s : Shared) (n i p : Nat) (x y : α) :
    (((if (s.nodes n).fast i = .ptr p then (s.setNode n fun nd => { nd with fast := upd nd.fast i .none }, x)
      else (s, y)).1.nodes n).fast i) ≠ .ptr p := by
  split
  · exact fun h => by simp only [setNode_nodes_same, upd_same, reduceCtorEq] at h
  · assumption

theorem stepGD_holds (s : Shared) (gd : GD) {n i a : Nat} (h : gd.holds n i a)
    (hs : ((stepGD s gd).1.nodes n).fast i = .ptr a) : (stepGD s gd).2.1.holds n i a := by
  cases gd with
  | pay p n0 i0 => obtain ⟨rfl, rfl, rfl⟩ := h; exact absurd hs (pay_not_named _ _ _ _ _ _)
  | _ => exact h.elim

theorem stepGI_holds (s : Shared) (gi : GI) {n i a : Nat} (h : gi.holds n i a)
    (hs : ((stepGI s gi).1.nodes n).fast i = .ptr a) : (stepGI s gi).2.1.holds n i a := by
  cases gi with
  | inc p n0 i0 => exact h
  | pay p n0 i0 => obtain ⟨rfl, rfl, rfl⟩ := h; exact absurd hs (pay_not_named _ _ _ _ _ _)
  | _ => exact h.elim

theorem stepLP_holds (cfg : Cfg) (c : Nat) (s : Shared) (l : Locals) (b : Bool) (lp : LP) {n i a : Nat}
    (hf : (stepLP cfg c s l b lp).1.fault = none) (h : lp.holds n i a l ∨ Fills l (some lp) n (some i) a)
    (hs : ((stepLP cfg c s l b lp).1.nodes n).fast i = .ptr a) :
    (stepLP cfg c s l b lp).2.2.1.holds n i a (stepLP cfg c s l b lp).2.1 := by
  cases lp with
  | pswap p idx =>
    obtain ⟨hn, rfl, rfl⟩ := h.resolve_left id
    exact ⟨hn, rfl, rfl⟩
  | a3 p idx =>
    obtain ⟨hn, rfl, rfl⟩ := h.resolve_right id
    simp only [stepLP] at hf ⊢; split
    · split
      · exact ⟨rfl, by rw [hn]; rfl⟩
      · exact ⟨hn, rfl, rfl⟩
    · rename_i hc; simp only [hc] at hf; exact absurd hf (setFault_ne_none _ _)
  | a4 p idx =>
    obtain ⟨hn, rfl, rfl⟩ := h.resolve_right id
    simp only [stepLP, hn, Option.getD_some] at hs
    exact absurd hs (pay_not_named _ _ _ _ _ _)
  | done p d => exact h.resolve_right id
  | _ => exact (h.elim id id).elim

/-! What a host holds once its sub-machine has moved on. -/

theorem PP.afterLoad_holds {x : HL} {ld : LP} {n i a : Nat} {l : Locals} (h : ld.holds n i a l) :
    (PP.afterLoad x ld).holds n i a l := by
  cases ld with
  | done r d =>
    simp only [PP.afterLoad]; split
    · rename_i hd; exact GI.not_holds_of_done hd n i a h
    · exact GI.ofGuard_holds _ n i a h
  | _ => exact h

theorem PP.afterInto_holds {x : HL} {r : Nat} {gi : GI} {n i a : Nat} {l : Locals} (h : gi.holds n i a) :
    (PP.afterInto x r gi).holds n i a l := by
  cases gi <;> exact h

theorem stepPP_holds (cfg : Cfg) (p c : Nat) (s : Shared) (l : Locals) (b : Bool) (pp : PP) {n i a : Nat}
    (hf : (stepPP cfg p c s l b pp).1.fault = none) (h : pp.holds n i a l ∨ Fills l pp.lp? n (some i) a)
    (hs : ((stepPP cfg p c s l b pp).1.nodes n).fast i = .ptr a) :
    (stepPP cfg p c s l b pp).2.2.1.holds n i a (stepPP cfg p c s l b pp).2.1 := by
  cases pp with
  | hload x ld => rw [stepPP_hload] at hf hs ⊢; exact PP.afterLoad_holds (stepLP_holds cfg c s l b ld hf h hs)
  | hinto x r gi =>
    rw [stepPP_hinto] at hs ⊢; exact PP.afterInto_holds (stepGI_holds s gi (h.resolve_right id) hs)
  | _ => exact (h.elim id id).elim

theorem CP.afterLoad_holds {cur new : Nat} {ld : LP} {n i a : Nat} {l : Locals} (h : ld.holds n i a l) :
    (CP.afterLoad cur new ld).holds n i a l := by
  cases ld with
  | done p d => simp only [CP.afterLoad]; (repeat' split) <;> exact h
  | _ => exact h

theorem CP.afterPay_holds {old : Guard} {pp : PP} {n i a : Nat} {l : Locals} (h : old.holds n i a ∨ pp.holds n i a l) :
    (CP.afterPay old pp).holds n i a l := by
  cases pp with
  | done => simp only [CP.afterPay]; split <;> exact h.resolve_right id
  | _ => exact h

theorem CP.afterDropOld_holds {gd : GD} {n i a : Nat} {l : Locals} (h : gd.holds n i a) :
    (CP.afterDropOld gd).holds n i a l := by
  cases gd <;> exact h

theorem stepCP_holds (cfg : Cfg) (c cur new : Nat) (s : Shared) (l : Locals) (b : Bool) (cp : CP) {n i a : Nat}
    (hf : (stepCP cfg c cur new s l b cp).1.fault = none) (h : cp.holds n i a l ∨ Fills l cp.lp? n (some i) a)
    (hs : ((stepCP cfg c cur new s l b cp).1.nodes n).fast i = .ptr a) :
    (stepCP cfg c cur new s l b cp).2.2.1.holds n i a (stepCP cfg c cur new s l b cp).2.1 := by
  cases cp with
  | load ld => rw [stepCP_load] at hf hs ⊢; exact CP.afterLoad_holds (stepLP_holds cfg c s l b ld hf h hs)
  | pay old pp =>
    rw [stepCP_pay] at hf hs ⊢
    exact CP.afterPay_holds ((or_assoc.mp h).imp_right fun h => stepPP_holds cfg old.ptr c s l b pp hf h hs)
  | dropOld gd =>
    rw [stepCP_dropOld] at hs ⊢; exact CP.afterDropOld_holds (stepGD_holds s gd (h.resolve_right id) hs)
  | cx old =>
    replace h := h.resolve_right id
    simp only [stepCP] at hf ⊢; split
    · split
      · exact Or.inl h
      · split
        · rename_i hd; exact GD.not_holds_of_done hd n i a h
        · exact GD.ofGuard_holds old n i a h
    · rename_i hc; simp only [hc] at hf; exact absurd hf (setFault_ne_none _ _)
  | _ => exact h.resolve_right id

theorem RP.afterLoad_holds {ld : LP} {n i a : Nat} {l : Locals} (h : ld.holds n i a l) :
    (RP.afterLoad ld).holds n i a l := by
  cases ld <;> exact h

/-- `rcu`'s exchange is over: `cur` and the `prev` it returned are each dropped, converted or tried again -/
theorem RP.afterCas_holds {cur : Guard} {x : Nat} {cp : CP} {n i a : Nat} {l : Locals}
    (h : cur.holds n i a ∨ cp.holds n i a l) : (RP.afterCas cur x cp).holds n i a l := by
  cases cp with
  | done prev =>
    simp only [RP.afterCas]; split
    · split
      · rename_i hi
        replace h := h.resolve_right (GI.not_holds_of_done hi n i a)
        split
        · rename_i hd; exact GD.not_holds_of_done hd n i a h
        · exact GD.ofGuard_holds cur n i a h
      · exact h.imp_right (GI.ofGuard_holds prev n i a)
    · split
      · rename_i hd; exact h.resolve_left (GD.not_holds_of_done hd n i a)
      · exact h.symm.imp_right (GD.ofGuard_holds cur n i a)
  | _ => exact h

theorem RP.afterIntoPrev_holds {cur prev : Guard} {gi : GI} {n i a : Nat} {l : Locals}
    (h : cur.holds n i a ∨ gi.holds n i a) : (RP.afterIntoPrev cur prev gi).holds n i a l := by
  cases gi with
  | done =>
    replace h := h.resolve_right id
    simp only [RP.afterIntoPrev]; split
    · rename_i hd; exact GD.not_holds_of_done hd n i a h
    · exact GD.ofGuard_holds cur n i a h
  | _ => exact h

theorem RP.afterDropCur_holds {res : Nat} {gd : GD} {n i a : Nat} {l : Locals} (h : gd.holds n i a) :
    (RP.afterDropCur res gd).holds n i a l := by
  cases gd <;> exact h

theorem RP.afterDropCurLoop_holds {prev : Guard} {gd : GD} {n i a : Nat} {l : Locals}
    (h : prev.holds n i a ∨ gd.holds n i a) : (RP.afterDropCurLoop prev gd).holds n i a l := by
  cases gd with
  | done => exact h.resolve_right id
  | _ => exact h

theorem stepRP_holds (cfg : Cfg) (c : Nat) (s : Shared) (l : Locals) (b : Bool) (tries : Nat) (rp : RP) {n i a : Nat}
    (hf : (stepRP cfg c s l b tries rp).1.fault = none) (h : rp.holds n i a l ∨ Fills l rp.lp? n (some i) a)
    (hs : ((stepRP cfg c s l b tries rp).1.nodes n).fast i = .ptr a) :
    (stepRP cfg c s l b tries rp).2.2.1.holds n i a (stepRP cfg c s l b tries rp).2.1 := by
  cases rp with
  | load ld => rw [stepRP_load] at hf hs ⊢; exact RP.afterLoad_holds (stepLP_holds cfg c s l b ld hf h hs)
  | cas cur x cp =>
    rw [stepRP_cas] at hf hs ⊢
    exact RP.afterCas_holds ((or_assoc.mp h).imp_right fun h => stepCP_holds cfg c cur.ptr x s l b cp hf h hs)
  | intoPrev cur prev gi =>
    rw [stepRP_intoPrev] at hs ⊢
    exact RP.afterIntoPrev_holds ((h.resolve_right id).imp_right fun h => stepGI_holds s gi h hs)
  | dropCur res gd =>
    rw [stepRP_dropCur] at hs ⊢; exact RP.afterDropCur_holds (stepGD_holds s gd (h.resolve_right id) hs)
  | dropCurLoop prev gd =>
    rw [stepRP_dropCurLoop] at hs ⊢
    exact RP.afterDropCurLoop_holds ((h.resolve_right id).imp_right fun h => stepGD_holds s gd h hs)
  | attempt cur => exact Or.inl (h.resolve_right id)
  | done r => exact (h.resolve_right id).elim

/-! ## Whole operations: guards move between registers and operations -/

def RegHolds (greg : Nat → Option Guard) (n i a : Nat) : Prop := ∃ g gd, greg g = some gd ∧ gd.holds n i a

theorem RegHolds.set_free {greg : Nat → Option Guard} {n i a : Nat} (h : RegHolds greg n i a) (g : Nat) (v : Option Guard)
    (hfree : greg g = none) : RegHolds (upd greg g v) n i a := by
  obtain ⟨g', gd, h1, h2⟩ := h
  have : g' ≠ g := fun e => by subst e; rw [hfree] at h1; cases h1
  exact ⟨g', gd, by rw [upd_other _ _ _ _ this]; exact h1, h2⟩

theorem RegHolds.set_new {greg : Nat → Option Guard} {n i a : Nat} (g : Nat) (gd : Guard) (h : gd.holds n i a) :
    RegHolds (upd greg g (some gd)) n i a := ⟨g, gd, upd_same .., h⟩

/-- taking a guard out of a register: it was the holder, or the holder is still there -/
theorem RegHolds.take {greg : Nat → Option Guard} {n i a : Nat} (h : RegHolds greg n i a) (g : Nat) (x : Guard)
    (hx : greg g = some x) : x.holds n i a ∨ RegHolds (upd greg g none) n i a := by
  obtain ⟨g', gd, h1, h2⟩ := h
  by_cases e : g' = g
  · subst e; rw [hx] at h1; cases h1; exact Or.inl h2
  · exact Or.inr ⟨g', gd, by rw [upd_other _ _ _ _ e]; exact h1, h2⟩

/-- holders of a slot, seen from thread `t`: a register guard or `t`'s own operation -/
def HeldBy (st : State) (t n i a : Nat) : Prop :=
  RegHolds st.sh.greg n i a ∨ (st.th t).op.holds n i a (st.th t).loc

/-- starting an operation moves a guard from its register into the operation -/
theorem beginOp_held (st : State) (t : Nat) (o : Op) {n i a : Nat} (h : RegHolds st.sh.greg n i a) :
    HeldBy (beginOp st t o).1 t n i a := by
  have take : ∀ (st' : State) g x, st.sh.greg g = some x → st'.sh.greg = upd st.sh.greg g none →
      (x.holds n i a → (st'.th t).op.holds n i a (st'.th t).loc) → HeldBy st' t n i a :=
    fun st' g x hx hg hop => (h.take g x hx).elim (fun hh => Or.inr (hop hh)) (fun hh => Or.inl (hg ▸ hh))
  cases o with
  | dropg g =>
    simp only [beginOp]; split
    · exact Or.inl h
    · rename_i x hx; split
      · rename_i hd; exact take _ g x hx rfl fun hh => (GD.not_holds_of_done hd n i a hh).elim
      · exact take _ g x hx rfl fun hh => by simp only [upd_same]; exact GD.ofGuard_holds x n i a hh
  | ginto g hh =>
    simp only [beginOp]; split
    · exact Or.inl h
    · split
      · exact Or.inl h
      · rename_i x hx; split
        · rename_i hd; exact take _ g x hx rfl fun hh => (GI.not_holds_of_done hd n i a hh).elim
        · exact take _ g x hx rfl fun hh => by simp only [upd_same]; exact GI.ofGuard_holds x n i a hh
  | cas c cur nw g =>
    simp only [beginOp]; (repeat' split) <;> first | exact Or.inl h | skip
    rename_i y hy
    exact take _ _ y hy rfl fun hh => by simp only [upd_same]; exact Or.inr ⟨y, rfl, hh⟩
  | gderef g => simp only [beginOp]; (repeat' split) <;> first | exact Or.inl h | exact Or.inl (by simp only [setFault_greg]; exact h)
  | _ => simp only [beginOp] <;> (repeat' split) <;> exact Or.inl h

theorem heldBy_upd {cfg : Cfg} {sh : Shared} {th : Nat → Thread} {ct : Nat → Bool} {t n i a : Nat} {x : Thread}
    (h : RegHolds sh.greg n i a ∨ x.op.holds n i a x.loc) : HeldBy ⟨cfg, sh, upd th t x, ct⟩ t n i a := by
  unfold HeldBy; simp only [upd_same]; exact h

/-- a step of thread `t` keeps the holder of a slot that still names the value: the guard of a finished
    `load` or `compare_and_swap` is parked in its (free) output register -/
theorem microStep_held (N : Nat) (st : State) (t : Nat) (b : Bool) {n i a : Nat}
    (hr : (st.th t).op.okR N st.sh) (hf : (microStep st t b).1.sh.fault = none)
    (h : HeldBy st t n i a ∨ Fills (st.th t).loc (st.th t).op.lp? n (some i) a)
    (hs : ((microStep st t b).1.sh.nodes n).fast i = .ptr a) : HeldBy (microStep st t b).1 t n i a := by
  by_cases hi : (st.th t).op = .idle
  · have hR : RegHolds st.sh.greg n i a := by
      unfold HeldBy at h; rw [hi] at h; exact (h.resolve_right id).resolve_right id
    simp only [microStep, hi]; split
    · exact Or.inl hR
    · exact beginOp_held _ t _ hR
  · have hc := microStep_core st t b hi
    rw [hc.nodes] at hs; rw [hc.fault] at hf
    replace h := or_assoc.mp h
    -- the registers are as they were, the thread holds what its sub-machine holds
    have cont : ∀ {sh' : Shared} {x : Thread}, sh'.greg = st.sh.greg →
        RegHolds st.sh.greg n i a ∨ x.op.holds n i a x.loc → HeldBy ⟨st.cfg, sh', upd st.th t x, st.ctaken⟩ t n i a :=
      fun hg h => heldBy_upd (h.imp_left (hg ▸ ·))
    cases hop : (st.th t).op <;> rw [hop] at h hs hf hr
    case idle => exact absurd hop hi
    case finished => simp only [microStep, hop]; exact Or.inl (h.resolve_right fun h => h.elim id id)
    case load c g ld =>
      have h1 := h.imp_right fun hh => stepLP_holds st.cfg c st.sh (st.th t).loc b ld hf hh hs
      have hg := (stepLP_hg st.cfg c st.sh (st.th t).loc b ld).2
      simp only [microStep, hop]
      generalize stepLP st.cfg c st.sh (st.th t).loc b ld = r at h1 hg; obtain ⟨s', l', ld', evs⟩ := r
      split <;> (rename_i e; cases e)
      · refine heldBy_upd (Or.inl (h1.elim (fun hh => ?_) fun hh => RegHolds.set_new g _ hh))
        exact (hg ▸ hh : RegHolds s'.greg n i a).set_free g _ (hg ▸ hr.2.2)
      · exact cont hg h1
    case loadFull c x ld =>
      have h1 := h.imp_right fun hh => stepLP_holds st.cfg c st.sh (st.th t).loc b ld hf hh hs
      have hg := (stepLP_hg st.cfg c st.sh (st.th t).loc b ld).2
      simp only [microStep, hop]
      generalize stepLP st.cfg c st.sh (st.th t).loc b ld = r at h1 hg; obtain ⟨s', l', ld', evs⟩ := r
      split <;> (rename_i e; cases e)
      · split
        · rename_i hd; exact cont hg (h1.imp_right fun hh => GI.not_holds_of_done hd n i a hh)
        · exact cont hg (h1.imp_right fun hh => GI.ofGuard_holds _ n i a hh)
      · exact cont hg h1
    case loadFullInto _ _ _ gi | ginto _ _ gi =>
      have h1 := h.imp_right fun hh => stepGI_holds st.sh gi (hh.resolve_right id) hs
      have hg := (stepGI_hg st.sh gi).2
      simp only [microStep, hop]
      generalize stepGI st.sh gi = r at h1 hg; obtain ⟨s', gi', evs⟩ := r
      split <;> (rename_i e; cases e) <;> exact cont hg h1
    case dropg gd =>
      have h1 := h.imp_right fun hh => stepGD_holds st.sh gd (hh.resolve_right id) hs
      have hg := (stepGD_hg st.sh gd).2
      simp only [microStep, hop]
      generalize stepGD st.sh gd = r at h1 hg; obtain ⟨s', gd', evs⟩ := r
      split <;> (rename_i e; cases e) <;> exact cont hg h1
    case swapPay c _ p _ pp | cinto c _ p pp | dropc c p pp =>
      have h1 := h.imp_right fun hh => stepPP_holds st.cfg p c st.sh (st.th t).loc b pp hf hh hs
      have hg := (stepPP_hg st.cfg p c st.sh (st.th t).loc b pp).2
      simp only [microStep, hop]
      generalize stepPP st.cfg p c st.sh (st.th t).loc b pp = r at h1 hg; obtain ⟨s', l', pp', evs⟩ := r
      split <;> (rename_i e; cases e) <;> (repeat' split) <;> exact cont hg h1
    case rcu c out tries rp =>
      have h1 := h.imp_right fun hh => stepRP_holds st.cfg c st.sh (st.th t).loc b tries rp hf hh hs
      have hg := (stepRP_hg st.cfg c st.sh (st.th t).loc b tries rp).2
      simp only [microStep, hop]
      generalize stepRP st.cfg c st.sh (st.th t).loc b tries rp = r at h1 hg; obtain ⟨s', l', rp', tr', evs⟩ := r
      split <;> (rename_i e; cases e) <;> exact cont hg h1
    case cas c cur keep curPtr new g cp =>
      have h1 := h.imp_right fun hh => (or_right_comm.mp hh).imp_left fun hh =>
        stepCP_holds st.cfg c curPtr new st.sh (st.th t).loc b cp hf hh hs
      have hg := (stepCP_hg st.cfg c curPtr new st.sh (st.th t).loc b cp).2
      simp only [microStep, hop]
      generalize stepCP st.cfg c curPtr new st.sh (st.th t).loc b cp = r at h1 hg; obtain ⟨s', l', cp', evs⟩ := r
      split <;> (rename_i e; cases e)
      · -- `current` goes back to its register, the result into `g`
        obtain ⟨_, _, hfree, hcur⟩ := hr
        replace h1 := h1.imp_left fun hh => (hg ▸ hh : RegHolds s'.greg n i a)
        rw [← hg] at hfree
        cases cur with
        | g gc =>
          cases keep with
          | none => exact hcur.elim
          | some cg =>
            obtain ⟨_, hne, hfree2⟩ := hcur
            have hfree3 : upd s'.greg gc (some cg) g = none := by rw [upd_other _ _ _ _ hne.symm]; exact hfree
            refine heldBy_upd (Or.inl ?_)
            rcases h1 with hh | hh | ⟨_, e, hh⟩
            · exact (hh.set_free gc _ (hg ▸ hfree2)).set_free g _ hfree3
            · exact RegHolds.set_new g _ hh
            · cases e; exact (RegHolds.set_new gc _ hh).set_free g _ hfree3
        | _ =>
          cases keep with
          | some cg => exact hcur.elim
          | none =>
            refine heldBy_upd (Or.inl ?_)
            rcases h1 with hh | hh | ⟨_, e, _⟩
            · exact hh.set_free g _ hfree
            · exact RegHolds.set_new g _ hh
            · cases e
      · exact cont hg h1
    case exitCool cd =>
      have hg := (stepCD_hg st.sh cd).2
      simp only [microStep, hop]
      generalize stepCD st.sh cd = r at hg; obtain ⟨s', cd', evs⟩ := r
      split <;> (rename_i e; cases e) <;> exact cont hg (h.imp_right fun h => h.elim id id)
    all_goals
      -- a count operation or `swap`'s exchange: no guard is involved
      replace h := h.resolve_right fun h => h.elim id id
      simp only [microStep, hop]
      first
        | exact heldBy_upd (Or.inl (by simp only [incObj_greg, decObj_greg]; exact h))
        | (split <;> first | exact heldBy_upd (Or.inl h) | exact Or.inl h)

/-- **every occupied fast slot has a holder**: a guard in a register, or an operation in flight
    (which carries the guard, or has published the debt and not yet confirmed it) -/
def HoldInv (st : State) : Prop :=
  ∀ n i a, (st.sh.nodes n).fast i = .ptr a →
    RegHolds st.sh.greg n i a ∨ ∃ t, (st.th t).op.holds n i a (st.th t).loc

theorem HoldInv.initial (cfg : Cfg) (progs : Nat → List (String × Op)) : HoldInv (State.initial cfg progs) := by
  intro n i a h; cases h

theorem HoldInv.step {N : Nat} {st : State} (h : HoldInv st) (hn : NodeInv st) (t : Nat) (b : Bool)
    (hr : (st.th t).op.okR N st.sh) (hf : (microStep st t b).1.sh.fault = none) : HoldInv (microStep st t b).1 := by
  intro n i a hs'
  have held : _ → RegHolds (microStep st t b).1.sh.greg n i a ∨
      ∃ u, ((microStep st t b).1.th u).op.holds n i a ((microStep st t b).1.th u).loc :=
    fun hh => (microStep_held N st t b hr hf hh hs').imp_right fun x => ⟨t, x⟩
  rcases microStep_slots st t b hn.nodes.slots (hn.th t) n (some i) with e | e | ⟨p, e, hp⟩
  · rcases h n i a (e.symm.trans hs') with hh | ⟨u, hu⟩
    · exact held (Or.inl (Or.inl hh))
    · by_cases hut : u = t
      · subst hut; exact held (Or.inl (Or.inr hu))
      · exact Or.inr ⟨u, by rw [microStep_th_other st t b hut]; exact hu⟩
  · cases e.symm.trans hs'
  · cases e.symm.trans hs'; exact held (Or.inr hp)

/-- the register discipline of the program, along a schedule -/
def RegRun (N : Nat) : State → List (Nat × Bool) → Prop
  | _, [] => True
  | st, (t, b) :: rest => (st.th t).op.okR N st.sh ∧ RegRun N (microStep st t b).1 rest

theorem HoldInv.run {N : Nat} {st : State} (h : HoldInv st) (hn : NodeInv st) (sched : List (Nat × Bool))
    (hr : RegRun N st sched) (hf : (run st sched).sh.fault = none) : HoldInv (run st sched) := by
  induction sched generalizing st with
  | nil => exact h
  | cons x rest ih =>
    exact ih (h.step hn x.1 x.2 hr.1 (run_fault_mono _ rest hf)) (hn.step x.1 x.2) hr.2 hf

theorem RegRun.of_env {K N T : Nat} {st : State} {sched : List (Nat × Bool)} (h : EnvRun0 K N T st sched) :
    RegRun N st sched := by
  induction sched generalizing st with
  | nil => trivial
  | cons x rest ih => exact ⟨h.2.1.regs, ih h.2.2⟩

/-- **at rest no fast slot names a value**: with no guard that carries a debt in any register and
    no operation in flight, no fast slot names a value -/
theorem HoldInv.rest {st : State} (h : HoldInv st)
    (hg : ∀ g gd, st.sh.greg g = some gd → gd.debt = none)
    (hidle : ∀ t, (st.th t).op = .idle ∨ (st.th t).op = .finished) (n i a : Nat) :
    (st.sh.nodes n).fast i ≠ .ptr a := by
  intro hs
  rcases h n i a hs with ⟨g, gd, h1, h2⟩ | ⟨t, ht⟩
  · have := hg g gd h1; rw [h2.2] at this; cases this
  · rcases hidle t with e | e <;> (rw [e] at ht; exact ht)

end M
