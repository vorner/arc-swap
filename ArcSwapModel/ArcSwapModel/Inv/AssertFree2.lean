import ArcSwapModel.Inv.AssertFree

/-!
# The facts the assertions check hold in every reachable fault-free state
-/

namespace M
open Consts

theorem PP.lp_inv {pp : PP} {lp : LP} (hl : pp.lp? = some lp) :
    (∀ s l, pp.okN s l → lp.okN s l) ∧ pp.chk = lp.chk := by
  cases pp <;> cases hl; exact ⟨fun _ _ h => h, rfl⟩
theorem CP.lp_inv {cp : CP} {lp : LP} (hl : cp.lp? = some lp) :
    (∀ s l, cp.okN s l → lp.okN s l) ∧ cp.chk = lp.chk := by
  cases cp with
  | load ld => cases hl; exact ⟨fun _ _ h => h, rfl⟩
  | pay old pp => exact PP.lp_inv (pp := pp) hl
  | _ => cases hl
theorem RP.lp_inv {rp : RP} {lp : LP} (hl : rp.lp? = some lp) :
    (∀ s l, rp.okN s l → lp.okN s l) ∧ rp.chk = lp.chk := by
  cases rp with
  | load ld => cases hl; exact ⟨fun _ _ h => h, rfl⟩
  | cas cur x cp => exact CP.lp_inv (cp := cp) hl
  | _ => cases hl
theorem OpSt.lp_inv {op : OpSt} {lp : LP} (hl : op.lp? = some lp) :
    (∀ s l, op.okN s l → lp.okN s l) ∧ op.chk = lp.chk := by
  cases op with
  | load c g ld | loadFull c g ld => cases hl; exact ⟨fun _ _ h => h, rfl⟩
  | swapPay c out old isStore pp | cinto c x p pp | dropc c p pp => exact PP.lp_inv (pp := pp) hl
  | cas c cur keep curPtr new g cp => exact CP.lp_inv (cp := cp) hl
  | rcu c out tries rp => exact RP.lp_inv (rp := rp) hl
  | _ => cases hl

theorem OpSt.okN_lp {s : Shared} {l : Locals} {op : OpSt} {lp : LP} (h : op.okN s l) (hl : op.lp? = some lp) : lp.okN s l :=
  (OpSt.lp_inv hl).1 s l h

/-- the part of `PP.pre` that is not about a nested load -/
def PP.preOwn (s : Shared) (l : Locals) : PP → Prop
  | .hload _ _ => True
  | pp => pp.pre s l

theorem PP.pre_of {s : Shared} {l : Locals} {pp : PP} (h1 : ∀ lp, pp.lp? = some lp → lp.pre s l) (h2 : pp.preOwn s l) :
    pp.pre s l := by
  cases pp with
  | hload x ld => exact h1 ld rfl
  | _ => exact h2

theorem OpSt.pre_of {s : Shared} {l : Locals} {op : OpSt}
    (h1 : ∀ lp, op.lp? = some lp → lp.pre s l)
    (h2 : ∀ a pp, op.walkC? = some (a, pp) → pp.preOwn s l)
    (h3 : ∀ cd n, op = .exitCool cd → cd = .swap n → (s.nodes n).inUse = nodeUsed) : op.pre s l := by
  cases op with
  | load c g ld | loadFull c g ld => exact h1 ld rfl
  | swapPay c out p isStore pp | cinto c x p pp | dropc c p pp => exact PP.pre_of h1 (h2 p pp rfl)
  | exitCool cd => exact fun n hn => h3 cd n rfl hn
  | cas c cur keep curPtr new g cp =>
    cases cp with
    | load ld => exact h1 ld rfl
    | pay old pp => exact PP.pre_of h1 (h2 old.ptr pp rfl)
    | _ => trivial
  | rcu c out tries rp =>
    cases rp with
    | load ld => exact h1 ld rfl
    | cas cur x cp =>
      cases cp with
      | load ld => exact h1 ld rfl
      | pay old pp => exact PP.pre_of h1 (h2 old.ptr pp rfl)
      | _ => trivial
    | _ => trivial
  | _ => trivial

theorem WalkNodeC.reachable {st : State} (h : Reachable st) : WalkNodeC st :=
  h.induct (fun _ _ t a pp hw => by cases hw) (fun _ t b _ ih => ih.step t b)

theorem pre_reachable {st : State} (h : Reachable st) (hf : st.sh.fault = none) (t : Nat) :
    (st.th t).op.pre st.sh (st.th t).loc := by
  have hchk := CheckInv.reachable h
  have hown := OwnInv.reachable h
  have hctl := CtlInv.reachable h hf
  have hself := SelfInv.reachable h hf
  refine OpSt.pre_of (fun lp hlp => ?_) (fun a pp hw => ?_) (fun cd n hop hcd => ?_)
  · -- the innermost load: past its first steps the thread has a node, which it owns unless it is
    -- looking for another one
    have hownlp := ownsT_of_lp (st.th t) lp hlp
    have node : lp.early = false → ∃ n, (st.th t).loc.node = some n ∧ (st.th t).loc.node.getD 0 = n := fun he =>
      (Option.isSome_iff_exists.mp ((OpSt.okN_lp ((NodeInv.reachable h).th t) hlp).2.1 he)).imp
        fun n hn => ⟨hn, by rw [hn]; rfl⟩
    have used : lp.early = false → ownsLP (st.th t).loc lp = (st.th t).loc.node →
        ∃ n, (st.th t).loc.node = some n ∧ (st.sh.nodes n).inUse = nodeUsed := fun he hol =>
      (node he).imp fun n hn => ⟨hn.1, hown.used t n (by rw [hownlp, hol]; exact hn.1)⟩
    cases lp with
    | get ng | reget ng => exact fun n hn => hchk.held t n (by rw [(OpSt.lp_inv hlp).2]; exact hn)
    | cool cd => rintro n rfl; exact hown.used t n (by rw [hownlp]; rfl)
    | nfDbg p | nhDbg | chDbg g cand => exact used rfl rfl
    | pswap p i =>
      obtain ⟨n, hn, hg⟩ := node rfl
      show (st.sh.nodes ((st.th t).loc.node.getD 0)).fast i = .none
      rw [hg]; exact ProbeInv.reachable h t p i n hlp hn
    | f2 g =>
      obtain ⟨n, hn, hg⟩ := node rfl
      show (st.sh.nodes ((st.th t).loc.node.getD 0)).control = .idle
      rw [hg]
      exact control_idle_outside hctl hown t n (by rw [hownlp]; exact hn) (by rw [OpSt.win_lp, hlp]; rfl)
    | f4 g cand =>
      obtain ⟨n, hn, hg⟩ := node rfl
      show (st.sh.nodes ((st.th t).loc.node.getD 0)).hslot = .none
      rw [hg]
      cases hv : (st.sh.nodes n).hslot with
      | none => rfl
      | ptr a =>
        -- a helping slot that is not free is held by its owner, who is then past `f4`
        refine absurd hv (hslot_free_unless_held (HHoldInv.reachable h hf) hown t n (by rw [hownlp]; exact hn) a
          (fun hh => ?_))
        obtain ⟨ld, h1, h2⟩ := OpSt.hholds_lp hh
        rw [hlp] at h1; cases h1; exact h2
    | f5 g cand =>
      obtain ⟨n, hn, hg⟩ := node rfl
      show (st.sh.nodes ((st.th t).loc.node.getD 0)).control = .gen g ∨
        ∃ j, (st.sh.nodes ((st.th t).loc.node.getD 0)).control = .env j
      rw [hg]
      exact hctl.inside t g n (by rw [OpSt.win_lp, hlp]; rfl) hn
    | _ => trivial
  · -- the walk's own assertions
    have own : ∀ x, pp.helpEntry = some x → pp.lp? = none → (∀ ng, pp ≠ .get ng) → ownsT (st.th t) = some x.own :=
      fun x he hl hg => by rw [walkC_owns hw hg hl]; exact hself.entry t a _ x hw he
    cases pp with
    | get ng => exact fun n hn => hchk.held t n (by rw [(OpSt.walkC_inv hw).2.1]; exact hn)
    | res n => exact WalkNodeC.reachable h t a _ hw rfl
    | hDbg0 x => exact hown.used t x.own (own x rfl rfl (fun _ => PP.noConfusion))
    | hDbg1 x =>
      exact control_idle_outside hctl hown t x.own (own x rfl rfl (fun _ => PP.noConfusion)) (walkC_win_none hw rfl)
    | h2 x => exact hself.deep t a _ x hw rfl
    | _ => trivial
  · subst hcd
    exact hown.used t n (owns_of_cooldown (st.th t) n (by rw [hop]; rfl))

/-- **no assertion of the crate fires and no `expect` panics**: in every reachable state that has
    raised no fault, the next step of any thread raises no `debug_assert!`, `assert!` or `expect`
    failure — whatever fault it raises (if any) is a use-after-free, a double free or a stuck state
    of the model -/
theorem no_assertion_fires {st : State} (h : Reachable st) (hf : st.sh.fault = none) (t : Nat) (b : Bool)
    (f : Fault) (hf' : (microStep st t b).1.sh.fault = some f) : f.isAssert = false :=
  microStep_af st t b (pre_reachable h hf t) hf f hf'

/-- **no execution ever raises an assertion or an `expect` panic**: in every reachable state the
    fault flag of the machine, if set, is a use-after-free, a double free or a stuck state of the
    model — never a `debug_assert!`, an `assert!` or an `expect` of the crate.  For any number of
    threads, any programs, any schedule, any wrap modulus. -/
theorem never_an_assertion {st : State} (h : Reachable st) (f : Fault) (hf : st.sh.fault = some f) :
    f.isAssert = false := by
  revert f
  refine h.induct (P := fun st => ∀ f, st.sh.fault = some f → f.isAssert = false) (fun _ _ f hf => by cases hf) ?_
  intro st t b hr ih f hf
  cases hpre : st.sh.fault with
  | none => exact no_assertion_fires hr hpre t b f hf
  | some f0 => rw [microStep_keep st t b f0 hpre] at hf; cases hf; exact ih _ hpre

end M
