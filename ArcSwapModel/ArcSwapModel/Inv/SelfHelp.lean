import ArcSwapModel.Inv.Solo2
import ArcSwapModel.Inv.RcuVal2

/-!
# A writer never helps itself

`Slots::help` asserts, in the branch that helps a reader, that the node being helped is not the
helper's own ("Refusing to help myself").  A writer that comes past its own node on its walk finds
its own control word idle (it is not inside a load: `control_idle_outside`), so it never enters
that branch there.
-/

namespace M
open Consts

/-- the help call has just begun: nothing but the look at the control word has happened -/
def PP.helpEntry : PP → Option HL
  | .hDbg0 h | .hDbg1 h | .h1 h => some h
  | _ => none

/-- the help call is in (or past) the helping branch -/
def PP.helpDeep : PP → Option HL
  | .h2 h | .h3 h | .hres h | .hload h _ | .hinto h _ _ | .h4 h _ | .h5 h _ _ | .h6 h _ _ _ | .h7 h _ _ _
  | .h8 h _ | .hdrop h _ => some h
  | _ => none

theorem PP.dispatch_deep (h h' : HL) (hd : (PP.dispatch h).helpDeep = some h') :
    h' = h ∧ ∃ g, h.ctl = .gen g := by
  simp only [PP.dispatch] at hd
  split at hd
  · rename_i g hg; cases hd; exact ⟨rfl, g, hg⟩
  · cases hd

theorem PP.afterLoad_deep (h : HL) (ld : LP) : (PP.afterLoad h ld).helpDeep = some h := by
  cases ld <;> simp only [PP.afterLoad] <;> (try split) <;> rfl
theorem PP.afterInto_deep (h : HL) (r : Nat) (gi : GI) : (PP.afterInto h r gi).helpDeep = some h := by cases gi <;> rfl

/-- where a deep help state comes from: a deep state of the same call (same helper node, same
    helped node), or the look at the control word that found a generation -/
theorem stepPP_deep (cfg : Cfg) (p c : Nat) (s : Shared) (l : Locals) (b : Bool) (pp : PP) (h' : HL)
    (hd : (stepPP cfg p c s l b pp).2.2.1.helpDeep = some h') :
    (∃ h, pp.helpDeep = some h ∧ h'.own = h.own ∧ h'.who = h.who) ∨
      (∃ h g, pp = .h1 h ∧ h'.own = h.own ∧ h'.who = h.who ∧ (s.nodes h.who).control = .gen g) := by
  cases pp with
  | h1 h =>
    obtain ⟨rfl, g, hg⟩ := PP.dispatch_deep _ _ hd
    exact .inr ⟨h, g, rfl, rfl, rfl, hg⟩
  | hload h ld =>
    rw [stepPP_hload, PP.afterLoad_deep] at hd; cases hd; exact .inl ⟨_, rfl, rfl, rfl⟩
  | hinto h r gi =>
    rw [stepPP_hinto, PP.afterInto_deep] at hd; cases hd; exact .inl ⟨_, rfl, rfl, rfl⟩
  | h2 h | hres h | h4 h r | h5 h r x | h6 h r x m =>
    -- on with the same call
    simp only [stepPP] at hd
    (repeat' split at hd) <;> (cases hd; exact .inl ⟨_, rfl, rfl, rfl⟩)
  | h3 h | h7 h r x m | hdrop h r =>
    -- on, or back to the dispatch with the control word read again
    simp only [stepPP] at hd
    (repeat' split at hd) <;> first
      | (cases hd; done)
      | (cases hd; exact .inl ⟨_, rfl, rfl, rfl⟩)
      | (obtain ⟨rfl, _⟩ := PP.dispatch_deep _ _ hd; exact .inl ⟨_, rfl, rfl, rfl⟩)
  | _ => simp only [stepPP, PP.nextSlot] at hd <;> (repeat' split at hd) <;> cases hd

/-- where an entry state comes from: the reservation of the node (the helper's node is the
    thread's node), or the entry state before (locals unchanged) -/
theorem stepPP_entry (cfg : Cfg) (p c : Nat) (s : Shared) (l : Locals) (b : Bool) (pp : PP) (h' : HL)
    (hd : (stepPP cfg p c s l b pp).2.2.1.helpEntry = some h') :
    (stepPP cfg p c s l b pp).2.1 = l ∧
      ((∃ n, pp = .res n ∧ l.node = some h'.own) ∨ pp.helpEntry = some h') := by
  cases pp with
  | res n =>
    simp only [stepPP] at hd ⊢
    split at hd
    · cases hd
    · rename_i own hl; cases hd; exact ⟨rfl, .inl ⟨n, rfl, hl⟩⟩
  | hDbg0 h | hDbg1 h => exact ⟨rfl, .inr hd⟩
  | _ => simp only [stepPP, PP.dispatch, PP.nextSlot] at hd <;> (repeat' split at hd) <;> cases hd

/-- at the entry of a help call the helper's node is the thread's node; past the look at the
    control word that found a generation, the helped node is not the helper's own -/
structure SelfInv (st : State) : Prop where
  entry : ∀ t a pp h, (st.th t).op.walkC? = some (a, pp) → pp.helpEntry = some h → (st.th t).loc.node = some h.own
  deep : ∀ t a pp h, (st.th t).op.walkC? = some (a, pp) → pp.helpDeep = some h → h.own ≠ h.who

theorem SelfInv.initial (cfg : Cfg) (progs : Nat → List (String × Op)) : SelfInv (State.initial cfg progs) :=
  ⟨(fun t a pp h hw => by cases hw), (fun t a pp h hw => by cases hw)⟩

/-- the operations that walk the list: the load in progress, the node held for the check and the node
    owned are those of the walk -/
theorem OpSt.walkC_inv {op : OpSt} {a : Nat} {pp : PP} (h : op.walkC? = some (a, pp)) :
    op.lp? = pp.lp? ∧ op.chk = pp.chk ∧ ∀ prog l, ownsT ⟨prog, op, l⟩ = ownsPP l pp := by
  cases op with
  | swapPay c out old isStore pp0 | cinto c x p pp0 | dropc c p pp0 => cases h; exact ⟨rfl, rfl, fun _ _ => rfl⟩
  | cas c cur keep curPtr new g cp =>
    cases cp with
    | pay old pp0 => cases h; exact ⟨rfl, rfl, fun _ _ => rfl⟩
    | _ => cases h
  | rcu c out tries rp =>
    cases rp with
    | cas cur x cp =>
      cases cp with
      | pay old pp0 => cases h; exact ⟨rfl, rfl, fun _ _ => rfl⟩
      | _ => cases h
    | _ => cases h
  | _ => cases h

/-- a walking thread is not inside a load of its own unless it is at `hload` -/
theorem walkC_win_none {op : OpSt} {a : Nat} {pp : PP} (h : op.walkC? = some (a, pp)) (hlp : pp.lp? = none) :
    op.win = none := by
  rw [OpSt.win_lp, (OpSt.walkC_inv h).1, hlp]; rfl

/-- a walking thread past the start of its walk owns the node in its locals -/
theorem walkC_owns {th : Thread} {a : Nat} {pp : PP} (h : th.op.walkC? = some (a, pp))
    (hg : ∀ ng, pp ≠ .get ng) (hlp : pp.lp? = none) : ownsT th = th.loc.node := by
  refine ((OpSt.walkC_inv h).2.2 th.prog th.loc).trans ?_
  cases pp with
  | get ng => exact absurd rfl (hg ng)
  | hload x ld => cases hlp
  | _ => rfl

theorem SelfInv.step {st : State} (h : SelfInv st) (hc : CtlInv st) (ho : OwnInv st) (t : Nat) (b : Bool) :
    SelfInv (microStep st t b).1 := by
  refine ⟨fun u a pp' h' hw he => ?_, fun u a pp' h' hw hd => ?_⟩
  · by_cases e : u = t
    · subst e
      rcases microStep_walkC st u b a pp' hw with ⟨pp, c, h1, h2, h5⟩ | h1
      · rw [h2] at he
        obtain ⟨hl, hor⟩ := stepPP_entry st.cfg a c st.sh (st.th u).loc b pp h' he
        rw [h5, hl]
        rcases hor with ⟨n, _, hn⟩ | hprev
        · exact hn
        · exact h.entry u a pp h' h1 hprev
      · subst h1; cases he
    · rw [microStep_th_other st t b e] at hw ⊢; exact h.entry u a pp' h' hw he
  · by_cases e : u = t
    · subst e
      rcases microStep_walkC st u b a pp' hw with ⟨pp, c, h1, h2, _⟩ | h1
      · rw [h2] at hd
        rcases stepPP_deep st.cfg a c st.sh (st.th u).loc b pp h' hd with ⟨h0, hp, e1, e2⟩ | ⟨h0, g, hp, e1, e2, hg⟩
        · rw [e1, e2]; exact h.deep u a pp h0 h1 hp
        · -- the look at the control word found a generation: not the walker's own node, whose control
          -- word is idle while the walker is not inside a load
          subst hp
          rw [e1, e2]
          intro heq
          have hown : ownsT (st.th u) = some h0.own := by
            rw [walkC_owns h1 (fun ng => PP.noConfusion) rfl]; exact h.entry u a (.h1 h0) h0 h1 rfl
          have hidle := control_idle_outside hc ho u h0.own hown (walkC_win_none h1 rfl)
          rw [← heq, hidle] at hg; cases hg
      · subst h1; cases hd
    · rw [microStep_th_other st t b e] at hw; exact h.deep u a pp' h' hw hd

/-- in every reachable fault-free state -/
theorem SelfInv.reachable {st : State} (h : Reachable st) (hf : st.sh.fault = none) : SelfInv st :=
  h.induct_ff SelfInv.initial
    (fun _ t b hr hf0 ih _ => ih.step (CtlInv.reachable hr hf0) (OwnInv.reachable hr) t b) hf

/-- **"Refusing to help myself" never fires**: in every reachable fault-free state, a writer in the
    helping branch of `Slots::help` is helping a node that is not its own — so the step that checks
    it raises no fault -/
theorem help_not_self {st : State} (h : Reachable st) (hf : st.sh.fault = none) (t a : Nat) (hh : HL)
    (hw : (st.th t).op.walkC? = some (a, .h2 hh)) : hh.own ≠ hh.who :=
  (SelfInv.reachable h hf).deep t a (.h2 hh) hh hw rfl

end M
