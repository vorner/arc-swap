import ArcSwapModel.Inv.Busy3

/-!
# The hazard invariant with container destruction: walks of every kind

`into_inner` and `Drop` of a container walk the list for the value it holds before they take it
out (`OpSt.walkC?` extends `OpSt.walk?` by those two walks).  Such a walk is hosted by the operation
directly (`OpSt.destroys`), and a destroyer goes on destroying the same container until its walk is done
(`microStep_destroys`).
-/

namespace M
open Consts

/-- the operation is destroying container `c`, which holds `p`, and its walk for `p` is at `pp` -/
def OpSt.destroys (op : OpSt) (c p : Nat) (pp : PP) : Prop :=
  (∃ x, op = .cinto c x p pp) ∨ op = .dropc c p pp

theorem OpSt.destroys.walkC {op : OpSt} {c p : Nat} {pp : PP} (h : op.destroys c p pp) : op.walkC? = some (p, pp) := by
  rcases h with ⟨x, rfl⟩ | rfl <;> rfl

theorem OpSt.destroys.lp {op : OpSt} {c p : Nat} {pp : PP} (h : op.destroys c p pp) : op.lp? = pp.lp? := by
  rcases h with ⟨x, rfl⟩ | rfl <;> rfl

theorem OpSt.destroys.consWalk {op : OpSt} {c p : Nat} {pp : PP} (h : op.destroys c p pp) : op.consWalk c p :=
  h.elim (fun ⟨x, e⟩ => Or.inl ⟨x, pp, e⟩) (fun e => Or.inr ⟨pp, e⟩)

theorem OpSt.consWalk.destroys {op : OpSt} {c p : Nat} (h : op.consWalk c p) : ∃ pp, op.destroys c p pp :=
  h.elim (fun ⟨x, pp, e⟩ => ⟨pp, Or.inl ⟨x, e⟩⟩) (fun ⟨pp, e⟩ => ⟨pp, Or.inr e⟩)

/-- a walk is an exchange's or a destroyer's -/
theorem OpSt.walkC_destroys {op : OpSt} {a : Nat} {pp : PP} (h : op.walkC? = some (a, pp)) :
    op.walk? = some (a, pp) ∨ ∃ c, op.destroys c a pp := by
  cases op with
  | cinto c x p pp0 =>
    simp only [OpSt.walkC?, Option.some.injEq, Prod.mk.injEq] at h
    obtain ⟨rfl, rfl⟩ := h
    exact Or.inr ⟨c, Or.inl ⟨x, rfl⟩⟩
  | dropc c p pp0 =>
    simp only [OpSt.walkC?, Option.some.injEq, Prod.mk.injEq] at h
    obtain ⟨rfl, rfl⟩ := h
    exact Or.inr ⟨c, Or.inr rfl⟩
  | _ => exact Or.inl h

theorem OpSt.walkC_cases {op : OpSt} {a : Nat} {pp : PP} (h : op.walkC? = some (a, pp)) :
    op.walk? = some (a, pp) ∨ (∃ c, op.consWalk c a ∧ op.cons = true) :=
  (OpSt.walkC_destroys h).imp id (fun ⟨c, hd⟩ => ⟨c, hd.consWalk, (OpSt.consWalk_cons hd.consWalk).1⟩)

/-- a destroyer's step is a step of its walk, and it goes on destroying the same container until the walk
    is done -/
theorem OpSt.destroys.next {op : OpSt} {c p : Nat} {pp : PP} (h : op.destroys c p pp) (cfg : Cfg) (s : Shared)
    (l : Locals) (b : Bool) :
    op.core cfg s l b = (stepPP cfg p c s l b pp).1 ∧ (op.next cfg s l b).2 = (stepPP cfg p c s l b pp).2.1 ∧
      ((op.next cfg s l b).1.destroys c p (stepPP cfg p c s l b pp).2.2.1 ∨
        ((stepPP cfg p c s l b pp).2.2.1 = .done ∧ (op.next cfg s l b).1.walkC? = none)) := by
  rcases h with ⟨x, rfl⟩ | rfl <;> refine ⟨rfl, rfl, ?_⟩ <;> simp only [OpSt.next] <;>
    generalize (stepPP cfg p c s l b pp).2.2.1 = pp' <;> cases pp'
  case inl.done => exact Or.inr ⟨rfl, rfl⟩
  case inr.done => exact Or.inr ⟨rfl, by dsimp only; split <;> rfl⟩
  all_goals first | exact Or.inl (Or.inl ⟨x, rfl⟩) | exact Or.inl (Or.inr rfl)

theorem microStep_destroys (st : State) (t : Nat) (b : Bool) {c p : Nat} {pp : PP}
    (h : (st.th t).op.destroys c p pp) :
    CoreEq (stepPP st.cfg p c st.sh (st.th t).loc b pp).1 (microStep st t b).1.sh ∧
      ((microStep st t b).1.th t).loc = (stepPP st.cfg p c st.sh (st.th t).loc b pp).2.1 ∧
      (((microStep st t b).1.th t).op.destroys c p (stepPP st.cfg p c st.sh (st.th t).loc b pp).2.2.1 ∨
        ((stepPP st.cfg p c st.sh (st.th t).loc b pp).2.2.1 = .done ∧ ((microStep st t b).1.th t).op.walkC? = none)) := by
  have hni : (st.th t).op ≠ .idle := by rcases h with ⟨x, e⟩ | e <;> rw [e] <;> exact OpSt.noConfusion
  obtain ⟨ho, hl, _⟩ := microStep_next st t b hni
  obtain ⟨h1, h2, h3⟩ := h.next st.cfg st.sh (st.th t).loc b
  exact ⟨h1 ▸ microStep_core st t b hni, hl.trans h2, ho ▸ h3⟩

/-- how a walk (of whatever kind) comes about and moves on -/
theorem microStep_walkC (st : State) (t : Nat) (b : Bool) (a : Nat) (pp' : PP)
    (h : ((microStep st t b).1.th t).op.walkC? = some (a, pp')) :
    (∃ pp c, (st.th t).op.walkC? = some (a, pp) ∧ pp' = (stepPP st.cfg a c st.sh (st.th t).loc b pp).2.2.1 ∧
        ((microStep st t b).1.th t).loc = (stepPP st.cfg a c st.sh (st.th t).loc b pp).2.1) ∨
      pp' = .start := by
  rcases OpSt.walkC_destroys h with hw | ⟨c, hd'⟩
  · rcases microStep_walk st t b a pp' hw with ⟨pp, c, h1, h2, _, _, h5⟩ | ⟨h1, _⟩
    · exact Or.inl ⟨pp, c, OpSt.walkC_of_walk h1, h2, h5⟩
    · exact Or.inr h1
  · rcases microStep_consWalk st t b c a hd'.consWalk with ⟨hcw, _⟩ | hidle
    · -- the destroyer was destroying before
      obtain ⟨pp, hd⟩ := hcw.destroys
      obtain ⟨_, hloc, hor⟩ := microStep_destroys st t b hd
      rcases hor with h2 | ⟨_, h2⟩
      · rw [h2.walkC] at h; cases h
        exact Or.inl ⟨pp, c, hd.walkC, rfl, hloc⟩
      · rw [h2] at h; cases h
    · -- it has just begun
      right
      obtain ⟨hcons, hcell⟩ := OpSt.consWalk_cons hd'.consWalk
      rcases microStep_cellq2 st t b c hcell with ⟨h2, _⟩ | ⟨_, _, _, _, _, _, h9⟩
      · rw [hidle] at h2; cases h2
      · obtain ⟨_, _, p', _, hor⟩ := h9 hcons
        rcases hor with ⟨x, hx'⟩ | hx' <;> (rw [hx'] at h; simp only [OpSt.walkC?, Option.some.injEq, Prod.mk.injEq] at h; exact h.2.symm)

/-- a thread that is walking the list, past the start of the walk, has a node -/
def WalkNodeC (st : State) : Prop :=
  ∀ t a pp, (st.th t).op.walkC? = some (a, pp) → pp.beforeNode = false → (st.th t).loc.node.isSome = true

theorem WalkNodeC.step {st : State} (h : WalkNodeC st) (t : Nat) (b : Bool) : WalkNodeC (microStep st t b).1 := by
  intro u a pp' hw
  by_cases e : u = t
  · subst e
    rcases microStep_walkC st u b a pp' hw with ⟨pp, c, h1, h2, h5⟩ | h1
    · rw [h2, h5]
      exact stepPP_node st.cfg a c st.sh (st.th u).loc b pp (h u a pp h1)
    · subst h1; intro h'; cases h'
  · rw [microStep_th_other st t b e] at hw ⊢
    exact h u a pp' hw

theorem WalkNode.of_C {st : State} (h : WalkNodeC st) : WalkNode st :=
  fun t a pp hw => h t a pp (OpSt.walkC_of_walk hw)

theorem WalkNode.reachable {st : State} (h : Reachable st) : WalkNode st :=
  .of_C (h.induct (P := WalkNodeC) (fun _ _ _ _ _ hw => nomatch hw) (fun _ t b _ h0 => h0.step t b))

end M
