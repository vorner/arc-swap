import ArcSwapModel.Inv.HoldFinal

/-!
# What a container or a handle denotes is alive

The ledger (`C02_ledger_final`) says `count + slots naming a = containers + handles + guards +
units in flight`.  The slot-holder invariants say every occupied slot has a holder.  Counting the
holders (each claims one slot and accounts for at least one unit) gives
`slots naming a ≤ guards + units in flight`, hence `count ≥ containers + handles`: **a value stored
in a container, or denoted by a handle, has a positive count** — for every value, in the end state
of every execution that keeps the program discipline and raises no fault.
-/

namespace M
open Consts

theorem sumN_add (f g : Nat → Nat) (K : Nat) : sumN (fun n => f n + g n) K = sumN f K + sumN g K := by
  induction K with
  | zero => rfl
  | succ k ih => simp only [sumN, ih]; omega

theorem sumN_le {f g : Nat → Nat} {K : Nat} (h : ∀ n, n < K → f n ≤ g n) : sumN f K ≤ sumN g K := by
  induction K with
  | zero => exact Nat.le_refl _
  | succ k ih =>
    have := ih (fun n hn => h n (by omega))
    have := h k (by omega)
    simp only [sumN]; omega

theorem sumN_lt {f g : Nat → Nat} {K n : Nat} (h : ∀ m, m < K → f m ≤ g m) (hn : n < K) (hlt : f n + 1 ≤ g n) :
    sumN f K + 1 ≤ sumN g K := by
  induction K with
  | zero => omega
  | succ k ih =>
    simp only [sumN]
    by_cases e : n = k
    · subst e
      have := @sumN_le f g n (fun m hm => h m (by omega))
      omega
    · have := ih (fun m hm => h m (by omega)) (by omega)
      have := h k (by omega)
      omega

theorem sumN_term {f : Nat → Nat} {K n : Nat} (hn : n < K) : f n ≤ sumN f K := by
  induction K with
  | zero => omega
  | succ k ih =>
    simp only [sumN]
    by_cases h : n = k
    · subst h; omega
    · have := ih (by omega); omega

theorem sumN_ind_pos {P : Nat → Prop} [DecidablePred P] {K n : Nat} (hn : n < K) (h : P n) :
    1 ≤ sumN (fun k => ind (P k)) K :=
  Nat.le_trans (by simp only [ind, h, ↓reduceIte]; exact Nat.le_refl 1) (sumN_term (f := fun k => ind (P k)) hn)

theorem sumN_comm (f : Nat → Nat → Nat) (K M : Nat) :
    sumN (fun n => sumN (fun i => f n i) M) K = sumN (fun i => sumN (fun n => f n i) K) M := by
  induction K with
  | zero => simp only [sumN]; exact (sumN_zero M).symm
  | succ k ih =>
    simp only [sumN, ih]
    exact (sumN_add _ _ M).symm

theorem sumN_point (Q : Prop) [Decidable Q] (i0 M : Nat) :
    sumN (fun i => ind (Q ∧ i0 = i)) M = ind (Q ∧ i0 < M) := by
  induction M with
  | zero => simp [sumN, ind]
  | succ k ih =>
    simp only [sumN]; rw [ih]; simp only [ind]
    by_cases hq : Q <;> by_cases h1 : i0 < k <;> by_cases h2 : i0 = k <;> simp [hq, h1, h2] <;> omega

def sum2 (f : Nat → Nat → Nat) (K M : Nat) : Nat := sumN (fun n => sumN (fun i => f n i) M) K

theorem sum2_add (f g : Nat → Nat → Nat) (K M : Nat) :
    sum2 (fun n i => f n i + g n i) K M = sum2 f K M + sum2 g K M := by
  simp only [sum2]
  rw [← sumN_add]
  exact sumN_congr (fun n _ => sumN_add _ _ M)

theorem sum2_le {f g : Nat → Nat → Nat} {K M : Nat} (h : ∀ n i, n < K → i < M → f n i ≤ g n i) :
    sum2 f K M ≤ sum2 g K M :=
  sumN_le (fun n hn => sumN_le (fun i hi => h n i hn hi))

theorem sum2_lt {f g : Nat → Nat → Nat} {K M n0 i0 : Nat} (h : ∀ n i, n < K → i < M → f n i ≤ g n i)
    (hn : n0 < K) (hi : i0 < M) (hlt : f n0 i0 + 1 ≤ g n0 i0) : sum2 f K M + 1 ≤ sum2 g K M :=
  sumN_lt (fun n hn' => sumN_le (fun i hi' => h n i hn' hi')) hn (sumN_lt (fun i hi' => h n0 i hn hi') hi hlt)

theorem sum2_zero (K M : Nat) : sum2 (fun _ _ => 0) K M = 0 := by
  simp only [sum2, sumN_zero]

theorem sum2_sumN (f : Nat → Nat → Nat → Nat) (K M N : Nat) :
    sum2 (fun n i => sumN (fun g => f g n i) N) K M = sumN (fun g => sum2 (f g) K M) N := by
  induction N with
  | zero => simp only [sumN]; exact sum2_zero K M
  | succ k ih => simp only [sumN]; rw [sum2_add, ih]

def cnt2 (L : List (Nat × Nat)) (n i : Nat) : Nat := (L.filter (fun x => x = (n, i))).length

theorem cnt2_nil (n i : Nat) : cnt2 [] n i = 0 := rfl
theorem cnt2_cons (x : Nat × Nat) (L : List (Nat × Nat)) (n i : Nat) :
    cnt2 (x :: L) n i = ind (x.1 = n ∧ x.2 = i) + cnt2 L n i := by
  obtain ⟨a, b⟩ := x
  simp only [cnt2, List.filter_cons, ind]
  by_cases h : a = n ∧ b = i
  · obtain ⟨rfl, rfl⟩ := h; simp; omega
  · have : ¬ ((a, b) = (n, i)) := fun e => h (by cases e; exact ⟨rfl, rfl⟩)
    simp [h, this]

theorem cnt2_append (L L' : List (Nat × Nat)) (n i : Nat) : cnt2 (L ++ L') n i = cnt2 L n i + cnt2 L' n i := by
  simp [cnt2, List.filter_append]

theorem cnt2_pos {L : List (Nat × Nat)} {n i : Nat} (h : (n, i) ∈ L) : 1 ≤ cnt2 L n i := by
  induction L with
  | nil => cases h
  | cons x L ih =>
    rw [cnt2_cons]
    rcases List.mem_cons.mp h with e | e
    · subst e; simp [ind]
    · have := ih e; omega

theorem sum2_cnt2 (L : List (Nat × Nat)) (K M : Nat) : sum2 (cnt2 L) K M ≤ L.length := by
  induction L with
  | nil =>
    have : cnt2 [] = fun _ _ => 0 := rfl
    rw [this, sum2_zero]; exact Nat.le_refl _
  | cons x L ih =>
    have e : sum2 (cnt2 (x :: L)) K M = sum2 (fun n i => ind (x.1 = n ∧ x.2 = i)) K M + sum2 (cnt2 L) K M := by
      rw [← sum2_add]; exact sumN_congr (fun n _ => sumN_congr (fun i _ => cnt2_cons x L n i))
    have p : sum2 (fun n i => ind (x.1 = n ∧ x.2 = i)) K M ≤ 1 := by
      simp only [sum2]
      have : ∀ n, sumN (fun i => ind (x.1 = n ∧ x.2 = i)) M = ind (x.1 = n ∧ x.2 < M) := fun n => sumN_point _ _ _
      simp only [this]
      have h2 : ∀ n, ind (x.1 = n ∧ x.2 < M) = ind (x.2 < M ∧ x.1 = n) := fun n => by simp [ind, and_comm]
      simp only [h2, sumN_point]
      simp only [ind]; split <;> omega
    simp only [List.length_cons]; omega

/-! ## Claims: the slots a guard or an operation in flight holds for the value `a` -/

def one (p a : Nat) (x : Nat × Nat) : List (Nat × Nat) := if p = a then [x] else []

theorem one_len (p a : Nat) (x : Nat × Nat) : (one p a x).length = u p a := by
  simp only [one, u]; split <;> rfl
theorem mem_one {p a : Nat} (x : Nat × Nat) (h : p = a) : x ∈ one p a x := by simp [one, h]

def Guard.claims (a : Nat) (g : Guard) : List (Nat × Nat) :=
  match g.debt with
  | some d => one g.ptr a d
  | none => []

/-- the helping slot is slot number `slotCnt` of its node -/
def LP.claims (a : Nat) (l : Locals) : LP → List (Nat × Nat)
  | .a3 p idx | .a4 p idx => match l.node with | some n => one p a (n, idx) | none => []
  | .f5 _ cand | .fokInc cand | .fokPay cand | .fr1 cand _ | .fr2 cand _ _ | .frPay cand _ =>
    match l.node with | some n => one cand a (n, slotCnt) | none => []
  | .done p d => Guard.claims a { ptr := p, debt := d }
  | _ => []

def GD.claims (a : Nat) : GD → List (Nat × Nat)
  | .pay p n i => one p a (n, i)
  | _ => []

def GI.claims (a : Nat) : GI → List (Nat × Nat)
  | .inc p n i | .pay p n i => one p a (n, i)
  | _ => []

def PP.claims (a : Nat) (l : Locals) : PP → List (Nat × Nat)
  | .hload _ ld => ld.claims a l
  | .hinto _ _ gi => gi.claims a
  | _ => []

def CP.claims (a : Nat) (l : Locals) : CP → List (Nat × Nat)
  | .load ld => ld.claims a l
  | .dropNew old | .cx old | .decOld old | .done old => old.claims a
  | .pay old pp => old.claims a ++ pp.claims a l
  | .dropOld gd => gd.claims a

def RP.claims (a : Nat) (l : Locals) : RP → List (Nat × Nat)
  | .load ld => ld.claims a l
  | .attempt cur => cur.claims a
  | .cas cur _ cp => cur.claims a ++ cp.claims a l
  | .intoPrev cur _ gi => cur.claims a ++ gi.claims a
  | .dropCur _ gd => gd.claims a
  | .dropCurLoop prev gd => prev.claims a ++ gd.claims a
  | .done _ => []

def gClaims (a : Nat) : Option Guard → List (Nat × Nat)
  | some g => g.claims a
  | none => []

def OpSt.claims (a : Nat) (l : Locals) : OpSt → List (Nat × Nat)
  | .load _ _ ld | .loadFull _ _ ld => ld.claims a l
  | .loadFullInto _ _ _ gi | .ginto _ _ gi => gi.claims a
  | .dropg gd => gd.claims a
  | .swapPay _ _ _ _ pp | .cinto _ _ _ pp | .dropc _ _ pp => pp.claims a l
  | .cas _ _ keep _ _ _ cp => cp.claims a l ++ gClaims a keep
  | .rcu _ _ _ rp => rp.claims a l
  | _ => []

theorem Guard.claims_of_holds {g : Guard} {n i a : Nat} (h : g.holds n i a) : (n, i) ∈ g.claims a := by
  obtain ⟨h1, h2⟩ := h
  simp only [Guard.claims, h2]; exact mem_one _ h1

theorem LP.claims_of_holds {lp : LP} {l : Locals} {n i a : Nat} (h : lp.holds n i a l) : (n, i) ∈ lp.claims a l := by
  cases lp with
  | a3 | a4 => obtain ⟨h1, h2, h3⟩ := h; subst h2; simp only [LP.claims, h1]; exact mem_one _ h3
  | done p d => exact Guard.claims_of_holds (g := ⟨p, d⟩) h
  | _ => exact h.elim

theorem LP.claims_of_hholds {lp : LP} {l : Locals} {n a : Nat} (h : lp.hholds n a l) : (n, slotCnt) ∈ lp.claims a l := by
  cases lp with
  | f5 | fokInc | fokPay | fr1 | fr2 | frPay => obtain ⟨h1, h2⟩ := h; simp only [LP.claims, h1]; exact mem_one _ h2
  | _ => exact h.elim

theorem GD.claims_of_holds {gd : GD} {n i a : Nat} (h : gd.holds n i a) : (n, i) ∈ gd.claims a := by
  cases gd <;> first
    | exact h.elim
    | (obtain ⟨h1, h2, h3⟩ := h; subst h2 h3; exact mem_one _ h1)

theorem GI.claims_of_holds {gi : GI} {n i a : Nat} (h : gi.holds n i a) : (n, i) ∈ gi.claims a := by
  cases gi <;> first
    | exact h.elim
    | (obtain ⟨h1, h2, h3⟩ := h; subst h2 h3; exact mem_one _ h1)

theorem PP.claims_of_holds {pp : PP} {l : Locals} {n i a : Nat} (h : pp.holds n i a l) : (n, i) ∈ pp.claims a l := by
  cases pp <;> first
    | exact h.elim
    | exact LP.claims_of_holds h
    | exact GI.claims_of_holds h

theorem PP.claims_of_hholds {pp : PP} {l : Locals} {n a : Nat} (h : pp.hholds n a l) : (n, slotCnt) ∈ pp.claims a l := by
  cases pp <;> first
    | exact h.elim
    | exact LP.claims_of_hholds h

theorem CP.claims_of_holds {cp : CP} {l : Locals} {n i a : Nat} (h : cp.holds n i a l) : (n, i) ∈ cp.claims a l := by
  cases cp with
  | load ld => exact LP.claims_of_holds h
  | pay old pp =>
    exact List.mem_append.mpr (h.elim (fun x => Or.inl (Guard.claims_of_holds x)) (fun x => Or.inr (PP.claims_of_holds x)))
  | dropOld gd => exact GD.claims_of_holds h
  | _ => exact Guard.claims_of_holds h

theorem CP.claims_of_hholds {cp : CP} {l : Locals} {n a : Nat} (h : cp.hholds n a l) : (n, slotCnt) ∈ cp.claims a l := by
  cases cp with
  | load ld => exact LP.claims_of_hholds h
  | pay old pp => exact List.mem_append.mpr (Or.inr (PP.claims_of_hholds h))
  | _ => exact h.elim

theorem RP.claims_of_holds {rp : RP} {l : Locals} {n i a : Nat} (h : rp.holds n i a l) : (n, i) ∈ rp.claims a l := by
  cases rp with
  | load ld => exact LP.claims_of_holds h
  | attempt cur => exact Guard.claims_of_holds h
  | cas cur x cp =>
    exact List.mem_append.mpr (h.elim (fun x => Or.inl (Guard.claims_of_holds x)) (fun x => Or.inr (CP.claims_of_holds x)))
  | intoPrev cur prev gi =>
    exact List.mem_append.mpr (h.elim (fun x => Or.inl (Guard.claims_of_holds x)) (fun x => Or.inr (GI.claims_of_holds x)))
  | dropCur res gd => exact GD.claims_of_holds h
  | dropCurLoop prev gd =>
    exact List.mem_append.mpr (h.elim (fun x => Or.inl (Guard.claims_of_holds x)) (fun x => Or.inr (GD.claims_of_holds x)))
  | done r => exact h.elim

theorem RP.claims_of_hholds {rp : RP} {l : Locals} {n a : Nat} (h : rp.hholds n a l) : (n, slotCnt) ∈ rp.claims a l := by
  cases rp with
  | load ld => exact LP.claims_of_hholds h
  | cas cur x cp => exact List.mem_append.mpr (Or.inr (CP.claims_of_hholds h))
  | _ => exact h.elim

theorem OpSt.claims_of_holds {op : OpSt} {l : Locals} {n i a : Nat} (h : op.holds n i a l) : (n, i) ∈ op.claims a l := by
  cases op with
  | load | loadFull => exact LP.claims_of_holds h
  | loadFullInto | ginto => exact GI.claims_of_holds h
  | dropg => exact GD.claims_of_holds h
  | swapPay | cinto | dropc => exact PP.claims_of_holds h
  | cas c cur keep curPtr new g cp =>
    refine List.mem_append.mpr (h.elim (fun x => Or.inl (CP.claims_of_holds x)) (fun x => Or.inr ?_))
    obtain ⟨cg, rfl, hx⟩ := x
    exact Guard.claims_of_holds hx
  | rcu c out tries rp => exact RP.claims_of_holds h
  | _ => exact h.elim

theorem OpSt.claims_of_hholds {op : OpSt} {l : Locals} {n a : Nat} (h : op.hholds n a l) : (n, slotCnt) ∈ op.claims a l := by
  cases op with
  | load | loadFull => exact LP.claims_of_hholds h
  | swapPay | cinto | dropc => exact PP.claims_of_hholds h
  | cas c cur keep curPtr new g cp => exact List.mem_append.mpr (Or.inl (CP.claims_of_hholds h))
  | rcu c out tries rp => exact RP.claims_of_hholds h
  | _ => exact h.elim

theorem Guard.claims_len (g : Guard) (a : Nat) : (g.claims a).length ≤ uG g a := by
  simp only [Guard.claims, uG]
  split
  · rw [one_len]; exact Nat.le_refl _
  · exact Nat.zero_le _

theorem LP.claims_len (lp : LP) (l : Locals) (a : Nat) : (lp.claims a l).length ≤ uLP lp a := by
  cases lp with
  | a3 | a4 | f5 | fokInc | fokPay | fr1 | fr2 | frPay =>
    simp only [LP.claims, uLP]; split
    · rw [one_len]; omega
    · exact Nat.zero_le _
  | done p d => exact Guard.claims_len ⟨p, d⟩ a
  | _ => exact Nat.zero_le _

theorem GD.claims_len (gd : GD) (a : Nat) : (gd.claims a).length ≤ uGD gd a := by
  cases gd <;> simp only [GD.claims, uGD] <;> first | exact Nat.zero_le _ | (rw [one_len]; omega)

theorem GI.claims_len (r : Nat) (gi : GI) (a : Nat) : (gi.claims a).length ≤ uGI r gi a := by
  cases gi <;> simp only [GI.claims, uGI] <;> first | exact Nat.zero_le _ | (rw [one_len]; omega)

theorem PP.claims_len (p : Nat) (pp : PP) (l : Locals) (a : Nat) : (pp.claims a l).length ≤ uPP p pp a := by
  cases pp with
  | hload x ld => have := LP.claims_len ld l a; simp only [PP.claims, uPP]; omega
  | hinto x r gi => have := GI.claims_len r gi a; simp only [PP.claims, uPP]; omega
  | _ => exact Nat.zero_le _

theorem CP.claims_len (new : Nat) (cp : CP) (l : Locals) (a : Nat) : (cp.claims a l).length ≤ uCP new cp a := by
  cases cp with
  | load ld => have := LP.claims_len ld l a; simp only [CP.claims, uCP]; omega
  | dropNew old | cx old | decOld old => have := Guard.claims_len old a; simp only [CP.claims, uCP]; omega
  | pay old pp =>
    have := Guard.claims_len old a
    have := PP.claims_len old.ptr pp l a
    simp only [CP.claims, uCP, List.length_append]; omega
  | dropOld gd => have := GD.claims_len gd a; simp only [CP.claims, uCP]; omega
  | done old => exact Guard.claims_len old a

theorem RP.claims_len (rp : RP) (l : Locals) (a : Nat) : (rp.claims a l).length ≤ uRP rp a := by
  cases rp with
  | load ld => exact LP.claims_len ld l a
  | attempt cur => exact Guard.claims_len cur a
  | cas cur x cp =>
    have := Guard.claims_len cur a
    have := CP.claims_len x cp l a
    simp only [RP.claims, uRP, List.length_append]; omega
  | intoPrev cur prev gi =>
    have := Guard.claims_len cur a
    have := GI.claims_len prev.ptr gi a
    simp only [RP.claims, uRP, List.length_append]; omega
  | dropCur res gd => have := GD.claims_len gd a; simp only [RP.claims, uRP]; omega
  | dropCurLoop prev gd =>
    have := Guard.claims_len prev a
    have := GD.claims_len gd a
    simp only [RP.claims, uRP, List.length_append]; omega
  | done r => exact Nat.zero_le _

theorem gClaims_len (g : Option Guard) (a : Nat) : (gClaims a g).length ≤ gU g a := by
  cases g with
  | none => exact Nat.le_refl _
  | some gd => exact Guard.claims_len gd a

theorem OpSt.claims_len (op : OpSt) (l : Locals) (a : Nat) : (op.claims a l).length ≤ uOp op a := by
  cases op with
  | load | loadFull => exact LP.claims_len _ l a
  | loadFullInto | ginto => exact GI.claims_len _ _ a
  | dropg gd => exact GD.claims_len gd a
  | swapPay c out old isStore pp => have := PP.claims_len old pp l a; simp only [OpSt.claims, uOp]; omega
  | cinto | dropc => exact PP.claims_len _ _ l a
  | cas c cur keep curPtr new g cp =>
    have := CP.claims_len new cp l a
    have := gClaims_len keep a
    simp only [OpSt.claims, uOp, List.length_append]; omega
  | rcu c out tries rp => exact RP.claims_len rp l a
  | _ => exact Nat.zero_le _

def GregBelow (N : Nat) (greg : Nat → Option Guard) : Prop := ∀ g, N ≤ g → greg g = none

theorem GregBelow.of_eq {N : Nat} {greg greg' : Nat → Option Guard} (h : GregBelow N greg) (e : greg' = greg) :
    GregBelow N greg' := e ▸ h

theorem GregBelow.upd_lt {N : Nat} {greg : Nat → Option Guard} (h : GregBelow N greg) (g : Nat) (hg : g < N)
    (v : Option Guard) : GregBelow N (upd greg g v) :=
  fun g' hg' => (upd_other _ _ _ _ (by omega)).trans (h g' hg')

theorem GregBelow.lt {N : Nat} {greg : Nat → Option Guard} (h : GregBelow N greg) {g : Nat} {gd : Guard}
    (e : greg g = some gd) : g < N :=
  Nat.lt_of_not_le fun hc => by rw [h g hc] at e; cases e

/-- allocation writes one address, chosen by the heap alone -/
theorem alloc_heap {s x : Shared} (hx : x.heap = s.heap) (v a : Nat) :
    (alloc x v).1.heap a = s.heap a ∨ a = (alloc s v).2.1 := by
  show upd x.heap (lowestFree x.heap 4096) _ a = s.heap a ∨ a = lowestFree s.heap 4096
  rw [hx]
  by_cases e : a = lowestFree s.heap 4096
  · exact .inr e
  · exact .inl (upd_other _ _ _ _ e)

/-- What starting an operation does to the guard registers and to the heap: it only empties
    registers (`dropg`, `ginto`, a guard given to `compare_and_swap` as `current`), and it allocates
    (`new`). -/
structure BeginFrame (s s' : Shared) : Prop where
  greg : ∀ g, s'.greg g = s.greg g ∨ s'.greg g = none
  heap : ∀ a, s'.heap a = s.heap a ∨ ∃ v, a = (alloc s v).2.1

theorem BeginFrame.of {s s' : Shared} (hg : s'.greg = s.greg ∨ ∃ g0, s'.greg = upd s.greg g0 none)
    (hh : s'.heap = s.heap) : BeginFrame s s' where
  greg g := by
    rcases hg with e | ⟨g0, e⟩ <;> rw [e]
    · exact .inl rfl
    · simp only [upd]; split <;> simp
  heap a := .inl (congrFun hh a)

theorem beginOp_frame (st : State) (t : Nat) (o : Op) : BeginFrame st.sh (beginOp st t o).1.sh := by
  cases o with
  | new h v =>
    simp only [beginOp]; split
    · exact .of (.inl rfl) rfl
    · exact ⟨fun _ => .inl rfl, fun a => (alloc_heap rfl v a).imp id fun e => ⟨v, e⟩⟩
  | _ =>
    simp only [beginOp] <;> (repeat' split) <;>
      first | exact .of (.inl rfl) rfl | exact .of (.inr ⟨_, rfl⟩) rfl
            | exact .of (.inl (setFault_greg ..)) (setFault_heap ..)

theorem microStep_gregBelow (N : Nat) (st : State) (t : Nat) (b : Bool)
    (hr : (st.th t).op.okR N st.sh) (h : GregBelow N st.sh.greg) : GregBelow N (microStep st t b).1.sh.greg := by
  -- the sub-machines write no guard register: the driver does, when `load` or `compare_and_swap` returns
  have hc := (OpSt.core_upds st.cfg st.sh (st.th t).loc b (st.th t).op).greg
  cases hop : (st.th t).op <;> rw [hop] at hr hc <;> dsimp only [OpSt.core] at hc <;> simp only [microStep, hop]
  case idle =>
    split
    · exact h
    · exact fun g hg => ((beginOp_frame _ t _).greg g).elim (fun e => e.trans (h g hg)) id
  case finished => exact h
  case swapSw => split <;> exact h
  case cloneh | droph | swapDrop | dropcDec => exact h.of_eq hc
  case load c g ld =>
    split <;> rename_i heq <;> rw [heq] at hc
    · exact (h.of_eq hc).upd_lt g hr.2.1 _
    · exact h.of_eq hc
  case cas c cur keep curPtr new g cp =>
    split <;> rename_i heq <;> rw [heq] at hc
    · obtain ⟨-, hg, -, hcur⟩ := hr
      cases cur <;> cases keep <;> first | exact hcur.elim | exact (h.of_eq hc).upd_lt g hg _ | skip
      exact ((h.of_eq hc).upd_lt _ hcur.1 _).upd_lt g hg _
    · exact h.of_eq hc
  -- every other operation leaves the registers as the sub-machine it hosts leaves them
  all_goals split <;> rename_i heq <;> rw [heq] at hc <;> (repeat' split) <;> exact h.of_eq hc

theorem gregBelow_run (N : Nat) {st : State} (sched : List (Nat × Bool)) (hr : RegRun N st sched)
    (h : GregBelow N st.sh.greg) : GregBelow N (run st sched).sh.greg := by
  induction sched generalizing st with
  | nil => exact h
  | cons x rest ih => exact ih hr.2 (microStep_gregBelow N st x.1 x.2 hr.1 h)

/-- threads that are never scheduled stay idle -/
def IdleBeyond (T : Nat) (st : State) : Prop := ∀ t, T ≤ t → (st.th t).op = .idle

theorem IdleBeyond.lt {T : Nat} {st : State} (h : IdleBeyond T st) {t : Nat} (e : (st.th t).op ≠ .idle) : t < T :=
  Nat.lt_of_not_le fun hc => e (h t hc)

theorem idleBeyond_run {K N T : Nat} {st : State} (sched : List (Nat × Bool)) (he : EnvRun0 K N T st sched)
    (h : IdleBeyond T st) : IdleBeyond T (run st sched) := by
  induction sched generalizing st with
  | nil => exact h
  | cons x rest ih =>
    refine ih he.2.2 (fun t' ht' => ?_)
    rw [microStep_th_other st x.1 x.2 (by have := he.1; omega)]; exact h t' ht'

def named (nd : Node) (a i : Nat) : Nat := ind ((if i < slotCnt then nd.fast i else nd.hslot) = .ptr a)

theorem occN_named (nd : Node) (a : Nat) : occN nd a = sumN (fun i => named nd a i) (slotCnt + 1) := by
  have e : sumN (fun i => named nd a i) slotCnt = sumN (fun i => ind (nd.fast i = .ptr a)) slotCnt :=
    sumN_congr fun i hi => by simp only [named, hi, ↓reduceIte]
  simp only [sumN, e, occN]
  simp only [named, Nat.lt_irrefl, ↓reduceIte]

theorem occ_named (K : Nat) (nodes : Nat → Node) (a : Nat) :
    occ K nodes a = sum2 (fun n i => named (nodes n) a i) K (slotCnt + 1) :=
  sumN_congr (fun n _ => occN_named (nodes n) a)

theorem occ_pointwise (K N T : Nat) (st : State) (a : Nat) (h1 : HoldInv st) (h2 : HHoldInv st)
    (hg : GregBelow N st.sh.greg) (ht : IdleBeyond T st) :
    ∀ n i, n < K → i < slotCnt + 1 →
      named (st.sh.nodes n) a i ≤
        sumN (fun g => cnt2 (gClaims a (st.sh.greg g)) n i) N +
        sumN (fun t => cnt2 ((st.th t).op.claims a (st.th t).loc) n i) T := by
  intro n i _ hi
  -- a thread that holds the slot claims it, and is below `T` since it is not idle
  have thread : ∀ t, (n, i) ∈ (st.th t).op.claims a (st.th t).loc → (st.th t).op ≠ .idle →
      1 ≤ sumN (fun t => cnt2 ((st.th t).op.claims a (st.th t).loc) n i) T := fun t hm hne =>
    Nat.le_trans (cnt2_pos hm) (sumN_term (f := fun t => cnt2 ((st.th t).op.claims a (st.th t).loc) n i) (ht.lt hne))
  by_cases hi' : i < slotCnt <;> simp only [named, hi', ↓reduceIte, ind] <;> split <;>
    first | exact Nat.zero_le _ | rename_i hv
  · rcases h1 n i a hv with ⟨g, gd, e1, e2⟩ | ⟨t, e⟩
    · have c1 : 1 ≤ cnt2 (gClaims a (st.sh.greg g)) n i := by rw [e1]; exact cnt2_pos (Guard.claims_of_holds e2)
      have := sumN_term (f := fun g => cnt2 (gClaims a (st.sh.greg g)) n i) (hg.lt e1)
      omega
    · have := thread t (OpSt.claims_of_holds e) (fun hi => by rw [hi] at e; exact e)
      omega
  · obtain ⟨t, e⟩ := h2 n a hv
    have : i = slotCnt := by omega
    have := thread t (this ▸ OpSt.claims_of_hholds e) (fun hi => by rw [hi] at e; exact e)
    omega

theorem sum2_claims (K M N T : Nat) (st : State) (a : Nat) :
    sum2 (fun n i => sumN (fun g => cnt2 (gClaims a (st.sh.greg g)) n i) N +
        sumN (fun t => cnt2 ((st.th t).op.claims a (st.th t).loc) n i) T) K M ≤
      sumN (fun g => (gClaims a (st.sh.greg g)).length) N +
        sumN (fun t => ((st.th t).op.claims a (st.th t).loc).length) T := by
  rw [sum2_add, sum2_sumN (fun g n i => cnt2 (gClaims a (st.sh.greg g)) n i),
    sum2_sumN (fun t n i => cnt2 ((st.th t).op.claims a (st.th t).loc) n i)]
  exact Nat.add_le_add (sumN_le fun _ _ => sum2_cnt2 _ _ _) (sumN_le fun _ _ => sum2_cnt2 _ _ _)

theorem occ_le_claims (K N T : Nat) (st : State) (a : Nat) (h1 : HoldInv st) (h2 : HHoldInv st)
    (hg : GregBelow N st.sh.greg) (ht : IdleBeyond T st) :
    occ K st.sh.nodes a ≤ sumN (fun g => (gClaims a (st.sh.greg g)).length) N +
      sumN (fun t => ((st.th t).op.claims a (st.th t).loc).length) T := by
  rw [occ_named]
  exact Nat.le_trans (sum2_le (occ_pointwise K N T st a h1 h2 hg ht)) (sum2_claims ..)

theorem claims_le_units (N T : Nat) (st : State) (a : Nat) :
    sumN (fun g => (gClaims a (st.sh.greg g)).length) N +
        sumN (fun t => ((st.th t).op.claims a (st.th t).loc).length) T ≤
      sumN (fun g => gU (st.sh.greg g) a) N + threadsU T st a :=
  Nat.add_le_add (sumN_le fun _ _ => gClaims_len _ a) (sumN_le fun _ _ => OpSt.claims_len _ _ a)

/-- What the counting argument uses of a state; the end state of an execution that keeps the program
    discipline and raises no fault has it (`balanced_of_env`). -/
structure Balanced (K N T : Nat) (st : State) : Prop where
  ledger : Ledger K N T st
  hold : HoldInv st
  hhold : HHoldInv st
  greg : GregBelow N st.sh.greg
  idle : IdleBeyond T st

theorem balanced_of_env {K N T : Nat} (hK : 0 < K) {cfg : Cfg} {progs : Nat → List (String × Op)}
    {sched : List (Nat × Bool)} (he : EnvRun0 K N T (State.initial cfg progs) sched)
    (hf : (run (State.initial cfg progs) sched).sh.fault = none) :
    Balanced K N T (run (State.initial cfg progs) sched) where
  ledger := C02_ledger_final K N T hK cfg progs sched he hf
  hold := holdInv_of_env cfg progs sched he hf
  hhold := HHoldInv.reachable ⟨cfg, progs, sched, rfl⟩ hf
  greg := gregBelow_run N sched (RegRun.of_env he) (fun _ _ => rfl)
  idle := idleBeyond_run sched he (fun _ _ => rfl)

theorem Balanced.count_plus_claims {K N T : Nat} {st : State} (h : Balanced K N T st) (a : Nat) (ha : a ≠ 0) :
    st.sh.regs N a + threadsU T st a ≤
      (st.sh.heap a).cnt + (sumN (fun g => (gClaims a (st.sh.greg g)).length) N +
        sumN (fun t => ((st.th t).op.claims a (st.th t).loc).length) T) := by
  have hl := h.ledger a ha
  have := occ_le_claims K N T st a h.hold h.hhold h.greg h.idle
  simp only [pot] at hl
  omega

/-- **surplus ⇒ counted**: what the guard registers (`y`) and the threads (`z`) account for beyond
    their claims is counted, on top of the containers and the handles -/
theorem Balanced.counted {K N T : Nat} {st : State} (h : Balanced K N T st) (a : Nat) (ha : a ≠ 0) {y z : Nat}
    (hy : sumN (fun g => (gClaims a (st.sh.greg g)).length) N + y ≤ sumN (fun g => gU (st.sh.greg g) a) N)
    (hz : sumN (fun t => ((st.th t).op.claims a (st.th t).loc).length) T + z ≤ threadsU T st a) :
    sumN (fun c => ind (st.sh.cells c = some a)) N + sumN (fun h => ind (st.sh.hreg h = some a)) N + y + z ≤
      (st.sh.heap a).cnt := by
  have := h.count_plus_claims a ha
  simp only [Shared.regs, regs] at this
  omega

theorem Balanced.counted_of_thread_surplus {K N T : Nat} {st : State} (h : Balanced K N T st) (a : Nat) (ha : a ≠ 0)
    {t : Nat} (ht : t < T)
    (hs : ((st.th t).op.claims a (st.th t).loc).length + 1 ≤ uOp (st.th t).op a) : 1 ≤ (st.sh.heap a).cnt := by
  have := h.counted a ha (y := 0) (z := 1) (sumN_le fun _ _ => gClaims_len _ a)
    (sumN_lt (fun _ _ => OpSt.claims_len _ _ a) ht hs)
  omega

/-- **C01, containers and handles.**  In the end state of every execution that keeps the program
    discipline (`EnvRun0`: registers not raced on, fresh `mk`, pool not exhausted, at most `K`
    nodes, no hand-over) and raises no fault, for every value `a`: the strong count is at least the
    number of containers holding `a` plus the number of handles denoting it. -/
theorem count_covers_containers_and_handles (K N T : Nat) (hK : 0 < K) (cfg : Cfg) (progs : Nat → List (String × Op))
    (sched : List (Nat × Bool)) (he : EnvRun0 K N T (State.initial cfg progs) sched)
    (hf : (run (State.initial cfg progs) sched).sh.fault = none) (a : Nat) (ha : a ≠ 0) :
    sumN (fun c => ind ((run (State.initial cfg progs) sched).sh.cells c = some a)) N +
      sumN (fun h => ind ((run (State.initial cfg progs) sched).sh.hreg h = some a)) N ≤
    ((run (State.initial cfg progs) sched).sh.heap a).cnt :=
  (balanced_of_env hK he hf).counted a ha (y := 0) (z := 0) (sumN_le fun _ _ => gClaims_len _ a)
    (sumN_le fun _ _ => OpSt.claims_len _ _ a)

/-- a value stored in a container is alive: its count is positive -/
theorem stored_value_counted (K N T : Nat) (hK : 0 < K) (cfg : Cfg) (progs : Nat → List (String × Op))
    (sched : List (Nat × Bool)) (he : EnvRun0 K N T (State.initial cfg progs) sched)
    (hf : (run (State.initial cfg progs) sched).sh.fault = none) (a : Nat) (ha : a ≠ 0)
    (c : Nat) (hc : c < N) (hcell : (run (State.initial cfg progs) sched).sh.cells c = some a) :
    1 ≤ ((run (State.initial cfg progs) sched).sh.heap a).cnt := by
  have h := count_covers_containers_and_handles K N T hK cfg progs sched he hf a ha
  have := sumN_ind_pos (P := fun c => (run (State.initial cfg progs) sched).sh.cells c = some a) hc hcell
  omega

/-- a value denoted by a handle (a full load's result, a previous value returned by a writer) is
    alive: its count is positive -/
theorem handle_value_counted (K N T : Nat) (hK : 0 < K) (cfg : Cfg) (progs : Nat → List (String × Op))
    (sched : List (Nat × Bool)) (he : EnvRun0 K N T (State.initial cfg progs) sched)
    (hf : (run (State.initial cfg progs) sched).sh.fault = none) (a : Nat) (ha : a ≠ 0)
    (h : Nat) (hh : h < N) (hreg : (run (State.initial cfg progs) sched).sh.hreg h = some a) :
    1 ≤ ((run (State.initial cfg progs) sched).sh.heap a).cnt := by
  have h0 := count_covers_containers_and_handles K N T hK cfg progs sched he hf a ha
  have := sumN_ind_pos (P := fun h => (run (State.initial cfg progs) sched).sh.hreg h = some a) hh hreg
  omega

/-- **the exact form**: count + claims of all holders ≥ containers + handles + guards + units in flight -/
theorem count_plus_claims (K N T : Nat) (hK : 0 < K) (cfg : Cfg) (progs : Nat → List (String × Op))
    (sched : List (Nat × Bool)) (he : EnvRun0 K N T (State.initial cfg progs) sched)
    (hf : (run (State.initial cfg progs) sched).sh.fault = none) (a : Nat) (ha : a ≠ 0) :
    (run (State.initial cfg progs) sched).sh.regs N a + threadsU T (run (State.initial cfg progs) sched) a ≤
      ((run (State.initial cfg progs) sched).sh.heap a).cnt +
        (sumN (fun g => (gClaims a ((run (State.initial cfg progs) sched).sh.greg g)).length) N +
         sumN (fun t => (((run (State.initial cfg progs) sched).th t).op.claims a
            ((run (State.initial cfg progs) sched).th t).loc).length) T) :=
  (balanced_of_env hK he hf).count_plus_claims a ha

/-- **a guard that owns its reference** (no debt: the ninth and later guards of a thread, guards
    from the fallback path) keeps the value alive -/
theorem owned_guard_counted (K N T : Nat) (hK : 0 < K) (cfg : Cfg) (progs : Nat → List (String × Op))
    (sched : List (Nat × Bool)) (he : EnvRun0 K N T (State.initial cfg progs) sched)
    (hf : (run (State.initial cfg progs) sched).sh.fault = none) (a : Nat) (ha : a ≠ 0)
    (g : Nat) (hg : g < N) (gd : Guard) (hreg : (run (State.initial cfg progs) sched).sh.greg g = some gd)
    (hp : gd.ptr = a) (hd : gd.debt = none) :
    1 ≤ ((run (State.initial cfg progs) sched).sh.heap a).cnt := by
  have := (balanced_of_env hK he hf).counted a ha (y := 1) (z := 0)
    (sumN_lt (fun _ _ => gClaims_len _ a) hg (by simp [hreg, gClaims, Guard.claims, hd, gU, u, hp]))
    (sumN_le fun _ _ => OpSt.claims_len _ _ a)
  omega

/-- **the writer's own reference**: while a writer walks the debt list for the value `old` it has
    replaced (`swap`/`store`, before the release), that value is alive -/
theorem replaced_value_counted_during_walk (K N T : Nat) (hK : 0 < K) (cfg : Cfg) (progs : Nat → List (String × Op))
    (sched : List (Nat × Bool)) (he : EnvRun0 K N T (State.initial cfg progs) sched)
    (hf : (run (State.initial cfg progs) sched).sh.fault = none) (old : Nat) (ha : old ≠ 0)
    (t : Nat) (ht : t < T) (c out : Nat) (isStore : Bool) (pp : PP)
    (hop : ((run (State.initial cfg progs) sched).th t).op = .swapPay c out old isStore pp) :
    1 ≤ ((run (State.initial cfg progs) sched).sh.heap old).cnt := by
  refine (balanced_of_env hK he hf).counted_of_thread_surplus old ha ht ?_
  have := PP.claims_len old pp ((run (State.initial cfg progs) sched).th t).loc old
  simp only [hop, OpSt.claims, uOp, u, ↓reduceIte]
  omega

/-- non-vacuity: the one-thread execution that creates a value satisfies the hypotheses, its handle
    `h0` denotes address 1, and the theorem gives that object a positive count -/
example :
    1 ≤ ((run (State.initial {} (fun t => if t = 0 then [("new h0 5", .new 0 5)] else [])) [(0, false)]).sh.heap 1).cnt :=
  handle_value_counted 1 4 1 (by decide) {} _ [(0, false)] envRun0_new (by decide) 1 (by decide) 0 (by decide) (by decide)

end M
