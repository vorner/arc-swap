import ArcSwapModel.Inv.Touch3

/-!
# `touch` is exhaustive: a step that is not a touching step changes no object, except by allocation
-/

namespace M
open Consts

theorem stepLP_heap (cfg : Cfg) (c : Nat) (s : Shared) (l : Locals) (b : Bool) (lp : LP) (h : lp.touch = none) :
    (stepLP cfg c s l b lp).1.heap = s.heap := by
  cases lp with
  | get ng => rw [stepLP_get]; exact (stepNG_frame s b ng).2.2
  | reget ng => rw [stepLP_reget]; exact (stepNG_frame s b ng).2.2
  | cool cd => rw [stepLP_cool]; exact (stepCD_frame s cd).2.2
  | a4dec | fokInc | fokDec | frDec => cases h
  | _ =>
    simp only [stepLP] <;> (repeat' split) <;>
      first | rfl | exact setFault_heap .. | exact dbgInUse_heap .. | exact ite_setFault_heap ..

theorem stepGD_heap (s : Shared) (gd : GD) (h : gd.touch = none) : (stepGD s gd).1.heap = s.heap := by
  cases gd with
  | dec p => cases h
  | _ => simp only [stepGD] <;> (try split) <;> rfl

theorem stepGI_heap (s : Shared) (gi : GI) (h : gi.touch = none) : (stepGI s gi).1.heap = s.heap := by
  cases gi with
  | inc | dec => cases h
  | _ => simp only [stepGI] <;> (try split) <;> rfl

theorem stepPP_heap (cfg : Cfg) (p c : Nat) (s : Shared) (l : Locals) (b : Bool) (pp : PP) (h : pp.touch p = none) :
    (stepPP cfg p c s l b pp).1.heap = s.heap := by
  cases pp with
  | get ng => rw [stepPP_get]; exact (stepNG_frame s b ng).2.2
  | hload x ld => rw [stepPP_hload]; exact stepLP_heap cfg c s l b ld h
  | hinto x r gi => rw [stepPP_hinto]; exact stepGI_heap s gi h
  | inc | slotInc | dec | hdrop => cases h
  | _ =>
    simp only [stepPP] <;> (repeat' split) <;>
      first | rfl | exact setFault_heap .. | exact dbgInUse_heap .. | exact ite_setFault_heap ..

theorem stepCP_heap (cfg : Cfg) (c cur new : Nat) (s : Shared) (l : Locals) (b : Bool) (cp : CP) (h : cp.touch new = none) :
    (stepCP cfg c cur new s l b cp).1.heap = s.heap := by
  cases cp with
  | load ld => rw [stepCP_load]; exact stepLP_heap cfg c s l b ld h
  | pay old pp => rw [stepCP_pay]; exact stepPP_heap cfg old.ptr c s l b pp h
  | dropOld gd => rw [stepCP_dropOld]; exact stepGD_heap s gd h
  | dropNew | decOld => cases h
  | _ => simp only [stepCP] <;> (repeat' split) <;> first | rfl | exact setFault_heap ..

/-- `rcu`'s evaluation of the closure allocates its result -/
theorem stepRP_heap (cfg : Cfg) (c : Nat) (s : Shared) (l : Locals) (b : Bool) (tries : Nat) (rp : RP) (h : rp.touch = none)
    (a : Nat) : (stepRP cfg c s l b tries rp).1.heap a = s.heap a ∨ ∃ v, a = (alloc s v).2.1 := by
  cases rp with
  | load ld => rw [stepRP_load]; exact .inl (congrFun (stepLP_heap cfg c s l b ld h) a)
  | cas cur x cp => rw [stepRP_cas]; exact .inl (congrFun (stepCP_heap cfg c cur.ptr x s l b cp h) a)
  | intoPrev cur prev gi => rw [stepRP_intoPrev]; exact .inl (congrFun (stepGI_heap s gi h) a)
  | dropCur res gd => rw [stepRP_dropCur]; exact .inl (congrFun (stepGD_heap s gd h) a)
  | dropCurLoop prev gd => rw [stepRP_dropCurLoop]; exact .inl (congrFun (stepGD_heap s gd h) a)
  | attempt cur =>
    simp only [stepRP]
    exact (alloc_heap (by split <;> simp only [setFault_heap]) _ a).imp id fun e => ⟨_, e⟩
  | done r => exact .inl rfl

theorem OpSt.core_heap (cfg : Cfg) (s : Shared) (l : Locals) (b : Bool) (op : OpSt) (h : op.touch = none) (a : Nat) :
    (op.core cfg s l b).heap a = s.heap a ∨ ∃ v, a = (alloc s v).2.1 := by
  cases op with
  | load c g ld | loadFull c x ld => exact .inl (congrFun (stepLP_heap cfg c s l b ld h) a)
  | loadFullInto c x r gi | ginto x p gi => exact .inl (congrFun (stepGI_heap s gi h) a)
  | dropg gd => exact .inl (congrFun (stepGD_heap s gd h) a)
  | exitCool cd => exact .inl (congrFun (stepCD_frame s cd).2.2 a)
  | swapPay c out old isStore pp => exact .inl (congrFun (stepPP_heap cfg old c s l b pp h) a)
  | cinto c x p pp | dropc c p pp => exact .inl (congrFun (stepPP_heap cfg p c s l b pp h) a)
  | cas c cur keep curPtr new g cp => exact .inl (congrFun (stepCP_heap cfg c curPtr new s l b cp h) a)
  | rcu c out tries rp => exact stepRP_heap cfg c s l b tries rp h a
  | cloneh | droph | swapDrop | dropcDec => cases h
  | swapSw | idle | finished => exact .inl rfl

/-- **`touch` is exhaustive**: a step of an operation that is not at a count operation leaves every
    object as it is — its count, its liveness — except the address the allocator hands out (a new
    value; `new`, and `rcu`'s closure) -/
theorem microStep_heap_of_no_touch (st : State) (t : Nat) (b : Bool) (h : (st.th t).op.touch = none) (a : Nat) :
    (microStep st t b).1.sh.heap a = st.sh.heap a ∨ ∃ v, a = (alloc st.sh v).2.1 := by
  by_cases hi : (st.th t).op = .idle
  · simp only [microStep, hi]; split
    · exact .inl rfl
    · exact (beginOp_frame _ t _).heap a
  · rw [(microStep_core st t b hi).heap]; exact OpSt.core_heap _ _ _ b _ h a

end M
