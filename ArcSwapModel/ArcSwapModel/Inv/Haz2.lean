import ArcSwapModel.Inv.Haz1

/-!
# The container of an operation in progress

An operation works on one container from its beginning to its end (`OpSt.next_cell`); `OpCell`, `NoCons`:
what `HazAll` says of the operations in progress in an execution that destroys no container.
-/

namespace M
open Consts

/-- an operation works on the same container, and destroys it or not, from its beginning to its end -/
theorem OpSt.next_cell (cfg : Cfg) (s : Shared) (l : Locals) (b : Bool) (op : OpSt) :
    (op.next cfg s l b).1 = .idle ∨
      ((op.next cfg s l b).1.cell? = op.cell? ∧ (op.next cfg s l b).1.cons = op.cons) := by
  cases op <;> dsimp only [OpSt.next] <;> (repeat' split) <;> first | exact Or.inl rfl | exact Or.inr ⟨rfl, rfl⟩

/-- every operation in progress works on a container that exists -/
def OpCell (N : Nat) (st : State) : Prop := ∀ t c, (st.th t).op.cell? = some c → st.sh.cells c ≠ none ∧ c < N

/-- no container is being destroyed -/
def NoCons (st : State) : Prop := ∀ t, (st.th t).op.cons = false

theorem microStep_nocons {N : Nat} (st : State) (t : Nat) (b : Bool) (htame : Tame N st t) (h : (st.th t).op.cons = false) :
    ((microStep st t b).1.th t).op.cons = false := by
  by_cases hop : (st.th t).op = .idle
  · rcases (microStep_idle st t b hop).2.2 with ⟨_, h0, _⟩ |
        ⟨txt, o, rest, hp, ⟨_, h0, _⟩ | ⟨_, _, h0, _⟩ | ⟨c', p, h1, _⟩⟩
    · exact h0
    · exact h0
    · exact h0
    · have := (htame hop txt o rest hp).2
      rcases h1 with ⟨x, rfl, _⟩ | ⟨rfl, _⟩ <;> exact this.elim
  · rw [(microStep_next st t b hop).1]
    rcases OpSt.next_cell st.cfg st.sh (st.th t).loc b (st.th t).op with e | e
    · rw [e]; rfl
    · rw [e.2]; exact h

theorem NoCons.step {N : Nat} {st : State} (h : NoCons st) (t : Nat) (b : Bool) (htame : Tame N st t) : NoCons (microStep st t b).1 := by
  intro u
  by_cases e : u = t
  · subst e; exact microStep_nocons st u b htame (h u)
  · rw [microStep_th_other st t b e]; exact h u

end M
