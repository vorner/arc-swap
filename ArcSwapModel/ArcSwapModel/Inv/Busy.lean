import ArcSwapModel.Inv.Haz7

/-!
# The harness's `busy` discipline: a container is destroyed only when nobody works on it

`into_inner` and `Drop` take the container by value: in Rust nobody else can be inside an
operation on it.  In the model that is the register discipline of the harness: an operation
counts itself in `busy c` while it runs, `cinto`/`dropc` begin only when `busy c = 0`, and mark
the container taken so that no operation begins on it afterwards.
-/

namespace M
open Consts

/-- does the operation count in `busy c`? -/
def OpSt.nb (op : OpSt) (c : Nat) : Nat := if op.cell? = some c ∧ op.cons = false then 1 else 0

theorem OpSt.nb_le_one (op : OpSt) (c : Nat) : op.nb c ≤ 1 := by
  unfold OpSt.nb; split <;> omega

theorem nb_same (op op' : OpSt) (c : Nat) (h1 : op'.cell? = op.cell?) (h2 : op'.cons = op.cons) : op'.nb c = op.nb c := by
  simp [OpSt.nb, h1, h2]

theorem OpSt.nb_of_cell_none {op : OpSt} (h : op.cell? = none) (c : Nat) : op.nb c = 0 :=
  if_neg (fun e => by rw [h] at e; cases e.1)

theorem OpSt.busyNext_nb (cfg : Cfg) (s : Shared) (l : Locals) (b : Bool) (op : OpSt) (c : Nat) (h : op.nb c ≤ s.busy c) :
    op.busyNext cfg s l b c + op.nb c = s.busy c + (op.next cfg s l b).1.nb c := by
  generalize hf : op.busyNext cfg s l b = f
  unfold OpSt.busyNext at hf
  rw [(OpSt.core_upds cfg s l b op).busy_eq] at hf
  split at hf <;> subst hf
  · rename_i c0 h1 h2 h3
    rw [h1, OpSt.nb_of_cell_none (op := .idle) rfl]
    unfold OpSt.nb at h ⊢
    rw [h2, h3] at h ⊢
    by_cases e : c0 = c
    · subst e; simp only [and_self, ↓reduceIte, upd_same] at h ⊢; omega
    · rw [upd_other _ _ _ _ (Ne.symm e), if_neg (fun x => e (Option.some.inj x.1))]
  · rename_i hne
    rcases OpSt.next_cell cfg s l b op with e | e
    · rw [e, OpSt.nb_of_cell_none (op := .idle) rfl, OpSt.nb, if_neg (fun x => hne _ e x.1 x.2)]
    · rw [nb_same _ _ c e.1 e.2]

/-- **the bookkeeping of `busy`**: one step of a thread changes `busy c` by exactly the change of
    whether the thread's operation counts on `c` -/
theorem microStep_busy (st : State) (t : Nat) (b : Bool) (c : Nat) (h : (st.th t).op.nb c ≤ st.sh.busy c) :
    (microStep st t b).1.sh.busy c + (st.th t).op.nb c =
      st.sh.busy c + ((microStep st t b).1.th t).op.nb c := by
  by_cases hop : (st.th t).op = .idle
  · rw [hop, OpSt.nb_of_cell_none (op := .idle) rfl]
    rcases (microStep_idle st t b hop).2.2 with ⟨h0, _, e, _⟩ |
        ⟨_, _, _, _, ⟨h0, _, _, e, _⟩ | ⟨c', h0, h1, _, _, _, _, _, e⟩ | ⟨c', p, h0, _, _, _, _, _, _, e⟩⟩
    · rw [e, OpSt.nb_of_cell_none h0]
    · rw [e, OpSt.nb_of_cell_none h0]
    · rw [e, OpSt.nb, h0, h1]
      by_cases ec : c' = c
      · subst ec; simp only [and_self, ↓reduceIte, upd_same, Nat.add_zero]
      · rw [upd_other _ _ _ _ (Ne.symm ec), if_neg (fun x => ec (Option.some.inj x.1))]
    · rw [e, OpSt.nb, if_neg (fun x => by rcases h0 with ⟨_, _, e'⟩ | ⟨_, e'⟩ <;> (rw [e'] at x; cases x.2))]
  · obtain ⟨ho, _, _, hb, _⟩ := microStep_next st t b hop
    rw [ho, hb]
    exact OpSt.busyNext_nb _ _ _ _ _ c h

end M
