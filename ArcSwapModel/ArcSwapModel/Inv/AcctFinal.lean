import ArcSwapModel.Inv.AcctNode
import ArcSwapModel.Inv.FaultMono

/-!
# The ledger over whole executions, with the local well-formedness proved

`Wf K st` — nodes that do not exist yet are untouched, every thread's node exists, every program
counter and every guard in a register is locally well-formed — holds initially and is preserved by
every step (`Wf.step`).  With it, `StepOK` follows from assumptions about the program and the
environment only (`EnvOK`): registers are not raced on, `mk` creates fresh containers, the value
pool is not exhausted, `K` bounds the number of nodes ever linked, no control word ever holds an
envelope (no hand-over succeeds), and no fault is raised.  `C02_ledger_env`: along every such
execution the ledger balances.  `EnvRun.invariant` and `EnvRun0.invariant` are the induction over such
executions; an execution that ends without a fault has raised none (`EnvRun.of_final`).
-/

namespace M
open Consts

structure Wf (K : Nat) (st : State) : Prop where
  nodes : NodesOk st.sh
  thN : ∀ t, (st.th t).op.okN st.sh (st.th t).loc
  thL : ∀ t, (st.th t).op.okL K
  greg : GregOk K st.sh

/-- no control word holds an envelope: no hand-over is in flight -/
def NoEnv (s : Shared) : Prop := ∀ n j, (s.nodes n).control ≠ .env j

theorem Wf.node_lt {K : Nat} {st : State} (h : Wf K st) (hK : 0 < K) (hn : st.sh.nNodes ≤ K) (t : Nat) :
    (st.th t).loc.node.getD 0 < K := by
  cases hl : (st.th t).loc.node with
  | none => exact hK
  | some n => exact Nat.lt_of_lt_of_le (OpSt.okN_lt (h.thN t) n hl) hn

theorem Wf.step {K : Nat} {st : State} (h : Wf K st) (t : Nat) (b : Bool) (hK : 0 < K)
    (hn : st.sh.nNodes ≤ K) (hne : NoEnv st.sh) : Wf K (microStep st t b).1 := by
  obtain ⟨hN, hT⟩ := microStep_okN_all st t b h.nodes h.thN
  obtain ⟨hL1, hL2⟩ := microStep_okL K st t b (h.thL t) h.greg (h.node_lt hK hn t) (fun j => hne _ j)
  refine ⟨hN, hT, fun t' => ?_, hL2⟩
  by_cases ht : t' = t
  · subst ht; exact hL1
  · rw [microStep_th_other st t b ht]; exact h.thL t'

theorem Wf.initial (K : Nat) (cfg : Cfg) (progs : Nat → List (String × Op)) : Wf K (State.initial cfg progs) :=
  ⟨⟨fun _ _ => rfl, fun _ _ => ⟨fun _ => rfl, rfl⟩⟩, fun _ _ hn => (nomatch hn), fun _ => trivial, fun _ _ hg => (nomatch hg)⟩

/-- the register part of `OpSt.ok`: indices in range, output registers free (program discipline) -/
def OpSt.okR (N : Nat) (s : Shared) : OpSt → Prop
  | .load c g _ => c < N ∧ g < N ∧ s.greg g = none
  | .loadFull c h _ => c < N ∧ h < N ∧ s.hreg h = none
  | .loadFullInto _ h _ _ => h < N ∧ s.hreg h = none
  | .cloneh h h2 _ => h < N ∧ h2 < N ∧ h ≠ h2 ∧ s.hreg h = none ∧ s.hreg h2 = none
  | .ginto h _ _ => h < N ∧ s.hreg h = none
  | .swapSw c _ _ _ => c < N
  | .swapPay _ out _ isStore _ => (isStore = false → out < N ∧ s.hreg out = none)
  | .cas c cur keep _ _ g _ => c < N ∧ g < N ∧ s.greg g = none ∧
      (match cur, keep with
        | .h hc, none => hc < N ∧ s.hreg hc = none
        | .g gc, some _ => gc < N ∧ gc ≠ g ∧ s.greg gc = none
        | .null, none => True
        | _, _ => False)
  | .rcu c out _ _ => c < N ∧ out < N ∧ s.hreg out = none
  | .cinto c h p _ => c < N ∧ h < N ∧ s.hreg h = none ∧ s.cells c = some p
  | .dropc c p _ => c < N ∧ s.cells c = some p
  | .dropcDec c p => c < N ∧ s.cells c = some p
  | _ => True

theorem OpSt.ok_of {K N : Nat} {s : Shared} {op : OpSt} (hl : op.okL K) (hr : op.okR N s) : op.ok K N s := by
  cases op <;> first | exact ⟨hl, hr⟩ | exact hr | exact hl | exact ⟨hl.1, hr⟩

theorem OpSt.core_pp {op : OpSt} {pp : PP} (hp : op.pp? = some pp) (cfg : Cfg) (s : Shared) (l : Locals) (b : Bool) :
    ∃ p c, op.core cfg s l b = (stepPP cfg p c s l b pp).1 := by
  cases op with
  | swapPay c out old isStore pp' => cases hp; exact ⟨old, c, rfl⟩
  | cinto c y p pp' => cases hp; exact ⟨p, c, rfl⟩
  | dropc c p pp' => cases hp; exact ⟨p, c, rfl⟩
  | cas c cur keep curPtr new g cp =>
    cases cp with
    | pay old pp' => cases hp; exact ⟨old.ptr, c, by simp only [OpSt.core, stepCP_pay]⟩
    | _ => cases hp
  | rcu c out tries rp =>
    cases rp with
    | cas cur a cp =>
      cases cp with
      | pay old pp' => cases hp; exact ⟨old.ptr, c, by simp only [OpSt.core, stepRP_cas, stepCP_pay]⟩
      | _ => cases hp
    | _ => cases hp
  | _ => cases hp

/-- a successful hand-over leaves an envelope in the reader's control word -/
theorem h7_success_env (st : State) (t : Nat) (b : Bool) (h : HL) (r x m : Nat)
    (hp : (st.th t).op.pp? = some (.h7 h r x m)) (hx : (st.sh.nodes h.who).control = h.ctl) :
    ((microStep st t b).1.sh.nodes h.who).control = .env m := by
  have hni : (st.th t).op ≠ .idle := fun e => by rw [e] at hp; cases hp
  obtain ⟨p, c, e⟩ := OpSt.core_pp hp st.cfg st.sh (st.th t).loc b
  rw [(microStep_core st t b hni).nodes, e]
  simp only [stepPP, hx, if_true, setNode_nodes_same]

/-- what is assumed of the program and the environment for one step -/
structure EnvOK (K N : Nat) (st : State) (t : Nat) (b : Bool) : Prop where
  regs : (st.th t).op.okR N st.sh
  nodesBelow : (microStep st t b).1.sh.nNodes ≤ K
  noEnv : NoEnv st.sh
  noEnvAfter : NoEnv (microStep st t b).1.sh
  room : ∀ v, (st.sh.heap (alloc st.sh v).2.1).cnt = 0
  next : ∀ txt o rest, (st.th t).prog = (txt, o) :: rest → o.below N ∧ (∀ c h, o = .mk c h → st.sh.cells c = none)
  noFault : (microStep st t b).1.sh.fault = none

theorem StepOK.of_wf {K N : Nat} {st : State} {t : Nat} {b : Bool} (h : Wf K st) (hK : 0 < K)
    (he : EnvOK K N st t b) : StepOK K N st t b := by
  have hn : st.sh.nNodes ≤ K := Nat.le_trans (microStep_okN st t b h.nodes (h.thN t)).2.2 he.nodesBelow
  exact {
    ok := OpSt.ok_of (h.thL t) he.regs
    node := h.node_lt hK hn t
    beyond := h.nodes.slots
    nodesBelow := hn
    noHandover := fun hh r x m hp hx => he.noEnvAfter hh.who m (h7_success_env st t b hh r x m hp hx)
    room := he.room
    next := he.next
    noFault := he.noFault }

def EnvRun (K N T : Nat) : State → List (Nat × Bool) → Prop
  | _, [] => True
  | st, (t, b) :: rest => t < T ∧ EnvOK K N st t b ∧ EnvRun K N T (microStep st t b).1 rest

theorem EnvRun.invariant {K N T : Nat} {P : State → Prop}
    (hs : ∀ st t b, t < T → EnvOK K N st t b → P st → P (microStep st t b).1) (sched : List (Nat × Bool))
    {st : State} (he : EnvRun K N T st sched) (h : P st) : P (run st sched) :=
  run_invariant (H := fun st t b => t < T ∧ EnvOK K N st t b) (fun _ _ _ _ hr => ⟨⟨hr.1, hr.2.1⟩, hr.2.2⟩)
    (fun st t b hH => hs st t b hH.1 hH.2) sched he h

/-- **C02, the global sum.**  Along every execution from the initial state whose steps satisfy
    `EnvOK` — assumptions about the program (registers are not raced on, `mk` creates fresh
    containers), the pool (not exhausted), the bound `K` on the nodes ever linked, and that no
    hand-over succeeds and no fault is raised — for every value: strong count + debt slots naming it
    = containers + handles + guards denoting it + units of the operations in flight. -/
theorem C02_ledger_env (K N T : Nat) (hK : 0 < K) (cfg : Cfg) (progs : Nat → List (String × Op))
    (sched : List (Nat × Bool)) (he : EnvRun K N T (State.initial cfg progs) sched) :
    Ledger K N T (run (State.initial cfg progs) sched) :=
  -- the ledger is kept together with `Wf`, which turns `EnvOK` into `StepOK`
  (EnvRun.invariant (P := fun st => Wf K st ∧ Ledger K N T st)
    (fun _ t b ht h1 h =>
      have hs := StepOK.of_wf h.1 hK h1
      ⟨h.1.step t b hK hs.nodesBelow h1.noEnv, h.2.step t b ht hs⟩)
    sched he ⟨Wf.initial K cfg progs, Ledger.initial K N T cfg progs⟩).2

theorem run_fault_mono (st : State) (sched : List (Nat × Bool)) (h : (run st sched).sh.fault = none) :
    st.sh.fault = none := by
  induction sched generalizing st with
  | nil => exact h
  | cons x rest ih => obtain ⟨t, b⟩ := x; exact microStep_fault_mono st t b (ih _ h)

/-- `EnvOK` without the no-fault clause -/
structure EnvOK0 (K N : Nat) (st : State) (t : Nat) (b : Bool) : Prop where
  regs : (st.th t).op.okR N st.sh
  nodesBelow : (microStep st t b).1.sh.nNodes ≤ K
  noEnv : NoEnv st.sh
  noEnvAfter : NoEnv (microStep st t b).1.sh
  room : ∀ v, (st.sh.heap (alloc st.sh v).2.1).cnt = 0
  next : ∀ txt o rest, (st.th t).prog = (txt, o) :: rest → o.below N ∧ (∀ c h, o = .mk c h → st.sh.cells c = none)

def EnvRun0 (K N T : Nat) : State → List (Nat × Bool) → Prop
  | _, [] => True
  | st, (t, b) :: rest => t < T ∧ EnvOK0 K N st t b ∧ EnvRun0 K N T (microStep st t b).1 rest

theorem EnvRun0.invariant {K N T : Nat} {P : State → Prop}
    (hs : ∀ st t b, t < T → EnvOK0 K N st t b → P st → P (microStep st t b).1) (sched : List (Nat × Bool))
    {st : State} (he : EnvRun0 K N T st sched) (h : P st) : P (run st sched) :=
  run_invariant (H := fun st t b => t < T ∧ EnvOK0 K N st t b) (fun _ _ _ _ hr => ⟨⟨hr.1, hr.2.1⟩, hr.2.2⟩)
    (fun st t b hH => hs st t b hH.1 hH.2) sched he h

theorem EnvRun.of_final {K N T : Nat} {st : State} (sched : List (Nat × Bool)) (he : EnvRun0 K N T st sched)
    (hf : (run st sched).sh.fault = none) : EnvRun K N T st sched := by
  induction sched generalizing st with
  | nil => trivial
  | cons x rest ih =>
    obtain ⟨t, b⟩ := x
    obtain ⟨ht, h1, hrest⟩ := he
    exact ⟨ht, { h1 with noFault := run_fault_mono _ rest hf }, ih hrest hf⟩

/-- **C02, the global sum, for executions that end without a fault.** -/
theorem C02_ledger_final (K N T : Nat) (hK : 0 < K) (cfg : Cfg) (progs : Nat → List (String × Op))
    (sched : List (Nat × Bool)) (he : EnvRun0 K N T (State.initial cfg progs) sched)
    (hf : (run (State.initial cfg progs) sched).sh.fault = none) :
    Ledger K N T (run (State.initial cfg progs) sched) :=
  C02_ledger_env K N T hK cfg progs sched (EnvRun.of_final sched he hf)

/-- non-vacuity: a concrete execution (one thread creating a value) satisfies `EnvRun0` -/
theorem envRun0_new : EnvRun0 1 4 1 (State.initial {} (fun t => if t = 0 then [("new h0 5", .new 0 5)] else [])) [(0, false)] := by
  refine ⟨by decide, ⟨trivial, by decide, ?_, ?_, fun _ => rfl, ?_⟩, trivial⟩
  · intro n j; simp [State.initial]
  · intro n j; simp [State.initial, microStep, beginOp, alloc]
  · intro txt o rest hp
    simp only [State.initial, ↓reduceIte, List.cons.injEq, Prod.mk.injEq] at hp
    obtain ⟨⟨_, rfl⟩, _⟩ := hp
    exact ⟨by show 0 < 4; decide, fun c h e => by cases e⟩

/-- non-vacuity: a concrete execution (one thread creating a value) satisfies `EnvRun` -/
example : EnvRun 1 4 1 (State.initial {} (fun t => if t = 0 then [("new h0 5", .new 0 5)] else [])) [(0, false)] :=
  EnvRun.of_final _ envRun0_new (by decide)

end M
