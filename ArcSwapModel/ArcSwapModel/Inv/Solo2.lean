import ArcSwapModel.Inv.Solo
import ArcSwapModel.Inv.HazD1

/-!
# Every walk, running alone, ends: `swap`/`store`, `compare_and_swap`, `rcu`, `into_inner`, `Drop`

`Inv/Solo.lean` bounds the walk of `swap`/`store`.  Its step lemma is about `pay_all` itself
(`walkPP_step`), so the bound holds for the walk of every operation that has one.
-/

namespace M
open Consts

theorem WalkAt.congr {s s' : Shared} {l : Locals} {pp : PP} {L : List Nat} (h : WalkAt s l pp L)
    (hn : s'.nodes = s.nodes) (hh : s'.head = s.head) : WalkAt s' l pp L := by
  have fr : ∀ cur L, Road s cur L → Road s' cur L := fun cur L r =>
    r.frame (fun m => by rw [hn]) (fun m => by rw [hn])
  cases pp <;> simp only [WalkAt] at h ⊢ <;> first
    | exact h.elim
    | (rw [hh]; exact fr _ _ h)
    | exact fr _ _ h
    | (rw [hn]; exact ⟨h.1, h.2.1, fr _ _ h.2.2⟩)
    | (rw [hn]; exact ⟨h.1, fr _ _ h.2⟩)
    | (rw [hn]; exact fr _ _ h)

/-- **one own step of a walk**, for the value the thread exchanged out (`swap`, `store`, `compare_and_swap`, `rcu`)
    or for the value of the container it is consuming or dropping -/
theorem walkC_step (st : State) (t a : Nat) (pp : PP) (L : List Nat) (hop : (st.th t).op.walkC? = some (a, pp))
    (hw : WalkAt st.sh (st.th t).loc pp L) (hnode : (st.th t).loc.node.isSome = true) :
    ∃ pp' L', ((microStep st t false).1.th t).op.walkC? = some (a, pp') ∧
      ((microStep st t false).1.th t).loc = (st.th t).loc ∧
      (pp' = .fin ∨ (WalkAt (microStep st t false).1.sh ((microStep st t false).1.th t).loc pp' L' ∧
        walkFuel pp' L'.length < walkFuel pp L.length)) := by
  obtain ⟨c, hnodes, hloc, hor, hhead⟩ := microStep_walkC_fwd st t false a pp hop
  obtain ⟨pp', L', h1, h2, h3⟩ := walkPP_step st.cfg a c st.sh (st.th t).loc pp L hw hnode
  rw [h1] at hor
  -- a walk that is over is at no position of the walk
  have hne : pp' ≠ .done := by rintro rfl; exact h3.elim nofun (·.1)
  exact ⟨pp', L', hor.resolve_right hne, hloc.trans h2,
    h3.imp id (fun ⟨hw', hlt⟩ => ⟨by rw [hloc, h2]; exact hw'.congr hnodes hhead, hlt⟩)⟩

/-- **in every reachable state**: a thread at the start of a walk — of a `swap`, `store`,
    `compare_and_swap`, `rcu`, `into_inner` or container drop — with every other thread frozen
    wherever it is and no reader inside its fallback window, ends the walk alone within
    `25 · nNodes + 4` own steps -/
theorem walkC_bound_reachable {st : State} (h : Reachable st) (t a : Nat)
    (hop : (st.th t).op.walkC? = some (a, .start)) (hnode : (st.th t).loc.node.isSome = true)
    (hq : ∀ m, (st.sh.nodes m).control = .idle) :
    ∃ k, k ≤ 25 * st.sh.nNodes + 4 ∧ ((solo st t k).th t).op.walkC? = some (a, .fin) := by
  obtain ⟨L, hL⟩ := ListInv.reachable h
  obtain ⟨k, hk, hfin⟩ := walk_reaches (W := fun st pp => (st.th t).op.walkC? = some (a, pp)) t
    (fun st pp L => walkC_step st t a pp L) (25 * L.length + 3) st .start L hop ⟨hL.1, fun m _ => hq m⟩ hnode (Nat.le_refl _)
  have := hL.length_le
  exact ⟨k, by omega, hfin⟩

end M
