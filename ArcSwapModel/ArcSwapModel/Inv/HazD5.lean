import ArcSwapModel.Inv.HazD4

/-!
# Guards held by an operation in flight: `rcu`'s closure dereferences a live value

What holds of a guard in a register (`guard_value_alive_env`) holds of a claim held by a thread's
operation, by `claimed_slot_alive` as well: what an operation holds on to while it runs — the guard
`rcu` hands to its closure — is alive.
-/

namespace M
open Consts

theorem sumN_two {f : Nat → Nat} {K m n : Nat} (hm : m < K) (hn : n < K) (hne : m ≠ n) : f m + f n ≤ sumN f K := by
  have h1 := @sumN_upd f (fun u => if u = m then 0 else f u) K m hm (fun u hu => if_neg hu)
  have h2 := @sumN_term (fun u => if u = m then 0 else f u) K n hn
  simp only [Ne.symm hne, ↓reduceIte] at h1 h2
  omega

/-- **what an operation in flight holds is alive**: thread `t`'s operation accounts for a unit of
    `a` beyond its claims (it owns a reference), or claims a fast slot `(n, i)` for `a` that it is
    not itself still confirming (or claims twice: a paid guard and a fresh publication of the same
    value through the same slot) -/
theorem thread_held_alive (K N T : Nat) (hK : 0 < K) (cfg : Cfg) (progs : Nat → List (String × Op))
    (sched : List (Nat × Bool)) (he : EnvRun0 K N T (State.initial cfg progs) sched)
    (hf : (run (State.initial cfg progs) sched).sh.fault = none) (a : Nat) (ha : a ≠ 0)
    (t : Nat) (ht : t < T)
    (hcase : (((run (State.initial cfg progs) sched).th t).op.claims a ((run (State.initial cfg progs) sched).th t).loc).length + 1 ≤
          uOp ((run (State.initial cfg progs) sched).th t).op a ∨
        ∃ n i, n < K ∧ i < slotCnt ∧
          (n, i) ∈ ((run (State.initial cfg progs) sched).th t).op.claims a ((run (State.initial cfg progs) sched).th t).loc ∧
          (((run (State.initial cfg progs) sched).th t).loc.node = some n →
            Unc ((run (State.initial cfg progs) sched).th t).op.lp? a i →
            2 ≤ cnt2 (((run (State.initial cfg progs) sched).th t).op.claims a ((run (State.initial cfg progs) sched).th t).loc) n i)) :
    1 ≤ ((run (State.initial cfg progs) sched).sh.heap a).cnt ∧
      ((run (State.initial cfg progs) sched).sh.heap a).live = true := by
  suffices hcnt : 1 ≤ ((run (State.initial cfg progs) sched).sh.heap a).cnt from
    ⟨hcnt, HeapOk.reachable ⟨cfg, progs, sched, rfl⟩ a hcnt⟩
  rcases hcase with hstrict | ⟨n, i, hnK, hiS, hmem, hnu⟩
  · exact unit_surplus_counted K N T hK cfg progs sched he hf a ha t ht hstrict
  · have c1 : 1 ≤ cnt2 (((run (State.initial cfg progs) sched).th t).op.claims a
        ((run (State.initial cfg progs) sched).th t).loc) n i := cnt2_pos hmem
    have s1 := @sumN_term (fun t => cnt2 (((run (State.initial cfg progs) sched).th t).op.claims a
        ((run (State.initial cfg progs) sched).th t).loc) n i) T t ht
    refine claimed_slot_alive K N T hK cfg progs sched he hf a ha n i hnK hiS (by omega) (fun o hno huo => ?_)
    by_cases hot : o = t
    · subst hot
      have := hnu hno huo
      omega
    · -- two different threads claim the slot
      have c2 : 1 ≤ cnt2 (((run (State.initial cfg progs) sched).th o).op.claims a
          ((run (State.initial cfg progs) sched).th o).loc) n i :=
        cnt2_pos (OpSt.claims_of_holds (holds_of_unc _ n i a hno huo))
      have two := @sumN_two (fun t => cnt2 (((run (State.initial cfg progs) sched).th t).op.claims a
          ((run (State.initial cfg progs) sched).th t).loc) n i) T o t (unc_lt he huo) ht hot
      omega

/-- **the closure of `rcu` is handed a live value**: at the step at which `rcu` evaluates the
    closure on the current value (`|v| v + 1` in the model: a dereference and an allocation), that
    value has not been destroyed — so the step raises no use-after-free fault, whatever the other
    threads have done since the value was loaded -/
theorem rcu_closure_value_alive (K N T : Nat) (hK : 0 < K) (cfg : Cfg) (progs : Nat → List (String × Op))
    (sched : List (Nat × Bool)) (he : EnvRun0 K N T (State.initial cfg progs) sched)
    (hf : (run (State.initial cfg progs) sched).sh.fault = none)
    (t : Nat) (ht : t < T) (c out tries : Nat) (cur : Guard) (hp : cur.ptr ≠ 0)
    (hop : ((run (State.initial cfg progs) sched).th t).op = .rcu c out tries (.attempt cur)) :
    ((run (State.initial cfg progs) sched).sh.heap cur.ptr).live = true := by
  have hwf := Wf.run0 hK (Wf.initial K cfg progs) sched he
  have hok := hwf.thL t
  rw [hop] at hok
  refine (thread_held_alive K N T hK cfg progs sched he hf cur.ptr hp t ht ?_).2
  rw [hop]
  cases hd : cur.debt with
  | none =>
    left
    simp [OpSt.claims, RP.claims, Guard.claims, hd, uOp, uRP, uG, u]
  | some ni =>
    obtain ⟨n, i⟩ := ni
    right
    obtain ⟨hnK, hiS⟩ := hok n i hd
    refine ⟨n, i, hnK, hiS, ?_, ?_⟩
    · simp only [OpSt.claims, RP.claims]
      exact Guard.claims_of_holds ⟨rfl, hd⟩
    · intro _ hu; exfalso; rcases hu with hu | hu <;> simp [OpSt.lp?, RP.lp?] at hu

/-- … hence evaluating the closure raises no fault -/
theorem rcu_attempt_no_fault (K N T : Nat) (hK : 0 < K) (cfg : Cfg) (progs : Nat → List (String × Op))
    (sched : List (Nat × Bool)) (he : EnvRun0 K N T (State.initial cfg progs) sched)
    (hf : (run (State.initial cfg progs) sched).sh.fault = none)
    (t : Nat) (ht : t < T) (b : Bool) (c out tries : Nat) (cur : Guard)
    (hop : ((run (State.initial cfg progs) sched).th t).op = .rcu c out tries (.attempt cur)) :
    (microStep (run (State.initial cfg progs) sched) t b).1.sh.fault = none := by
  rw [(microStep_core _ t b (by rw [hop]; exact OpSt.noConfusion)).fault, hop]
  simp only [OpSt.core, stepRP, alloc]
  rw [deref_no_fault _ _ _ (rcu_closure_value_alive K N T hK cfg progs sched he hf t ht c out tries cur · hop)]
  exact hf

end M
