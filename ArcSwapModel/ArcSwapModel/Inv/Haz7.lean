import ArcSwapModel.Inv.Haz6

/-!
# A thread that has published a value and not confirmed it yet holds the slot

So it is one of the slot's claimants in the ledger of `Inv/Alive2.lean`: if a guard claims the same
slot for the same value, the slot is claimed twice and one of the two has been paid
(`guard_value_alive_env`, `Inv/HazD4.lean`).
-/

namespace M
open Consts

theorem LP.holds_of_unc {lp : LP} {l : Locals} {n i a : Nat} (hn : l.node = some n)
    (h : lp = .a3 a i ∨ lp = .a4 a i) : lp.holds n i a l := by
  rcases h with rfl | rfl <;> exact ⟨hn, rfl, rfl⟩

theorem PP.holds_of_lp {pp : PP} {l : Locals} {lp : LP} {n i a : Nat} (h : pp.lp? = some lp) (hl : lp.holds n i a l) :
    pp.holds n i a l := by
  cases pp <;> first | (cases h; done) | (simp only [PP.lp?, Option.some.injEq] at h; subst h; exact hl)

theorem CP.holds_of_lp {cp : CP} {l : Locals} {lp : LP} {n i a : Nat} (h : cp.lp? = some lp) (hl : lp.holds n i a l) :
    cp.holds n i a l := by
  cases cp with
  | load ld => simp only [CP.lp?, Option.some.injEq] at h; subst h; exact hl
  | pay old pp => exact Or.inr (PP.holds_of_lp (pp := pp) h hl)
  | _ => cases h

theorem RP.holds_of_lp {rp : RP} {l : Locals} {lp : LP} {n i a : Nat} (h : rp.lp? = some lp) (hl : lp.holds n i a l) :
    rp.holds n i a l := by
  cases rp with
  | load ld => simp only [RP.lp?, Option.some.injEq] at h; subst h; exact hl
  | cas cur x cp => exact Or.inr (CP.holds_of_lp (cp := cp) h hl)
  | _ => cases h

theorem OpSt.holds_of_lp {op : OpSt} {l : Locals} {lp : LP} {n i a : Nat} (h : op.lp? = some lp) (hl : lp.holds n i a l) :
    op.holds n i a l := by
  cases op with
  | load c g ld => simp only [OpSt.lp?, Option.some.injEq] at h; subst h; exact hl
  | loadFull c x ld => simp only [OpSt.lp?, Option.some.injEq] at h; subst h; exact hl
  | swapPay c out old isStore pp => exact PP.holds_of_lp (pp := pp) h hl
  | cinto c x p pp => exact PP.holds_of_lp (pp := pp) h hl
  | dropc c p pp => exact PP.holds_of_lp (pp := pp) h hl
  | cas c cur keep curPtr new g cp => exact Or.inl (CP.holds_of_lp (cp := cp) h hl)
  | rcu c out tries rp => exact RP.holds_of_lp (rp := rp) h hl
  | _ => cases h

/-- a thread that has published `a` in slot `i` of its node `n` and not confirmed it yet holds the slot -/
theorem holds_of_unc (th : Thread) (n i a : Nat) (hn : th.loc.node = some n) (h : Unc th.op.lp? a i) :
    th.op.holds n i a th.loc := by
  rcases h with h | h
  · exact OpSt.holds_of_lp h (LP.holds_of_unc hn (Or.inl rfl))
  · exact OpSt.holds_of_lp h (LP.holds_of_unc hn (Or.inr rfl))

end M
