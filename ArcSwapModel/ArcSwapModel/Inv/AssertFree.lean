import ArcSwapModel.Inv.SelfHelp
import ArcSwapModel.Inv.Hist

/-!
# No assertion of the crate fires, no `expect` panics

`Fault.isAssert`: the faults of the machine that stand for a `debug_assert!`, an `assert!` or an
`expect` of the crate.  `AF s s'`: the step from `s` to `s'` raises none of them.  Each sub-machine
step is assertion-free under the local facts its assertions check (`LP.pre`, `PP.pre`, …); the
invariants provide those facts in every reachable fault-free state.
-/

namespace M
open Consts

def Fault.isAssert : Fault → Bool
  | .panic _ | .debugAssert _ => true
  | _ => false

/-- the step raises no assertion and no panic -/
def AF (s s' : Shared) : Prop := s.fault = none → ∀ f, s'.fault = some f → f.isAssert = false

theorem AF.same {s s' : Shared} (h : s'.fault = s.fault) : AF s s' := by
  intro hf f hf'; rw [h, hf] at hf'; cases hf'

theorem AF.setFault (s : Shared) (f0 : Fault) (h : f0.isAssert = false) : AF s (s.setFault f0) := by
  intro hf f hf'
  rw [setFault_fault_of_none _ _ hf] at hf'; cases hf'; exact h

theorem AF.of_eq {s s' s'' : Shared} (h : AF s s') (e : s''.fault = s'.fault) : AF s s'' := by
  intro hf f hf'; rw [e] at hf'; exact h hf f hf'

theorem af_incObj (s : Shared) (a : Nat) : AF s (incObj s a).1 := by
  simp only [incObj]; split
  · exact AF.same rfl
  · exact AF.setFault s _ rfl

theorem af_decObj (s : Shared) (a : Nat) : AF s (decObj s a).1 := by
  simp only [decObj]; (repeat' split) <;> first | exact AF.setFault s _ rfl | exact AF.same rfl

theorem stepNG_af (s : Shared) (b : Bool) (ng : NG) (h : ∀ n, ng.chk = some n → (s.nodes n).inUse = nodeChecking) :
    AF s (stepNG s b ng).1 := by
  rcases stepNG_fault s b ng with e | ⟨_, n, idle, rfl, hne⟩
  · exact AF.same e
  · exact absurd (h n rfl) hne

theorem stepCD_af (s : Shared) (cd : CD) (h : ∀ n, cd = .swap n → (s.nodes n).inUse = nodeUsed) :
    AF s (stepCD s cd).1 := by
  cases cd with
  | swap n => simp only [stepCD, h n rfl, ↓reduceIte]; exact AF.same rfl
  | _ => exact AF.same rfl

theorem stepGD_af (s : Shared) (gd : GD) : AF s (stepGD s gd).1 := by
  cases gd <;> simp only [stepGD] <;> (try split) <;> first | exact af_decObj s _ | exact AF.same rfl

theorem stepGI_af (s : Shared) (gi : GI) : AF s (stepGI s gi).1 := by
  cases gi <;> simp only [stepGI] <;> (try split) <;>
    first | exact af_incObj s _ | exact af_decObj s _ | exact AF.same rfl

/-- what the assertions on the read path check -/
def LP.pre (s : Shared) (l : Locals) : LP → Prop
  | .get ng | .reget ng => ∀ n, ng.chk = some n → (s.nodes n).inUse = nodeChecking
  | .cool cd => ∀ n, cd = .swap n → (s.nodes n).inUse = nodeUsed
  | .nfDbg _ | .nhDbg | .chDbg _ _ => ∃ n, l.node = some n ∧ (s.nodes n).inUse = nodeUsed
  | .pswap _ i => (s.nodes (l.node.getD 0)).fast i = .none
  | .f2 _ => (s.nodes (l.node.getD 0)).control = .idle
  | .f4 _ _ => (s.nodes (l.node.getD 0)).hslot = .none
  | .f5 g _ => (s.nodes (l.node.getD 0)).control = .gen g ∨ ∃ j, (s.nodes (l.node.getD 0)).control = .env j
  | _ => True

theorem stepLP_af (cfg : Cfg) (c : Nat) (s : Shared) (l : Locals) (b : Bool) (lp : LP) (h : lp.pre s l) :
    AF s (stepLP cfg c s l b lp).1 := by
  cases lp with
  | get ng => rw [stepLP_get]; exact stepNG_af s b ng h
  | reget ng => rw [stepLP_reget]; exact stepNG_af s b ng h
  | cool cd => rw [stepLP_cool]; exact stepCD_af s cd h
  | nfDbg p | nhDbg | chDbg g cand =>
    obtain ⟨n, hn, hu⟩ := h
    simp only [stepLP, hn, dbgInUse, hu, ↓reduceIte]; exact AF.same rfl
  | pswap p i | f2 g | f4 g cand =>
    have h' : _ = _ := h
    simp only [stepLP, h', ↓reduceIte]; exact AF.same rfl
  | f5 g cand =>
    simp only [stepLP]
    rcases h with h' | ⟨j, h'⟩
    · simp only [h', ↓reduceIte]; exact AF.same rfl
    · rw [h']; split <;> exact AF.same rfl
  | a1 | a3 p i | f3 g | fr1 cand j =>
    -- a dropped container or an empty envelope: a stuck state of the model
    simp only [stepLP]; (repeat' split) <;> first | exact AF.setFault s _ rfl | exact AF.same rfl
  | a4dec p | fokDec p | frDec p r => simp only [stepLP]; exact af_decObj s p
  | fokInc p => simp only [stepLP]; exact af_incObj s p
  | _ => simp only [stepLP] <;> (repeat' split) <;> exact AF.same rfl

/-- what the assertions on the writer's walk check -/
def PP.pre (s : Shared) (l : Locals) : PP → Prop
  | .get ng => ∀ n, ng.chk = some n → (s.nodes n).inUse = nodeChecking
  | .hload _ ld => ld.pre s l
  | .res _ => l.node.isSome = true
  | .hDbg0 h => (s.nodes h.own).inUse = nodeUsed
  | .hDbg1 h => (s.nodes h.own).control = .idle
  | .h2 h => h.own ≠ h.who
  | _ => True

theorem stepPP_af (cfg : Cfg) (p c : Nat) (s : Shared) (l : Locals) (b : Bool) (pp : PP) (h : pp.pre s l) :
    AF s (stepPP cfg p c s l b pp).1 := by
  cases pp with
  | get ng => rw [stepPP_get]; exact stepNG_af s b ng h
  | hload x ld => rw [stepPP_hload]; exact stepLP_af cfg c s l b ld h
  | hinto x r gi => rw [stepPP_hinto]; exact stepGI_af s gi
  | res n =>
    obtain ⟨own, hown⟩ := Option.isSome_iff_exists.mp h
    simp only [stepPP, hown]; exact AF.same rfl
  | hDbg0 x =>
    have h' : _ = _ := h
    simp only [stepPP, dbgInUse, h', ↓reduceIte]; exact AF.same rfl
  | hDbg1 x =>
    have h' : _ = _ := h
    simp only [stepPP, h', ↓reduceIte]; exact AF.same rfl
  | h2 x =>
    have h' : x.own ≠ x.who := h
    simp only [stepPP, h', ↓reduceIte]; exact AF.same rfl
  | inc | slotInc n j => simp only [stepPP]; exact af_incObj s p
  | dec => simp only [stepPP]; exact af_decObj s p
  | hdrop x r => simp only [stepPP]; exact af_decObj s r
  | _ => simp only [stepPP] <;> (repeat' split) <;> exact AF.same rfl

def CP.pre (s : Shared) (l : Locals) : CP → Prop
  | .load ld => ld.pre s l
  | .pay _ pp => pp.pre s l
  | _ => True

theorem stepCP_af (cfg : Cfg) (c cur new : Nat) (s : Shared) (l : Locals) (b : Bool) (cp : CP) (h : cp.pre s l) :
    AF s (stepCP cfg c cur new s l b cp).1 := by
  cases cp with
  | load ld => rw [stepCP_load]; exact stepLP_af cfg c s l b ld h
  | pay old pp => rw [stepCP_pay]; exact stepPP_af cfg old.ptr c s l b pp h
  | dropOld gd => rw [stepCP_dropOld]; exact stepGD_af s gd
  | dropNew old => simp only [stepCP]; exact af_decObj s new
  | decOld old => simp only [stepCP]; exact af_decObj s old.ptr
  | cx old =>
    -- an exchange on a dropped container is a stuck state of the model
    simp only [stepCP]; (repeat' split) <;> first | exact AF.setFault s _ rfl | exact AF.same rfl
  | done old => exact AF.same rfl

def RP.pre (s : Shared) (l : Locals) : RP → Prop
  | .load ld => ld.pre s l
  | .cas _ _ cp => cp.pre s l
  | _ => True

theorem stepRP_af (cfg : Cfg) (c : Nat) (s : Shared) (l : Locals) (b : Bool) (tries : Nat) (rp : RP) (h : rp.pre s l) :
    AF s (stepRP cfg c s l b tries rp).1 := by
  cases rp with
  | load ld => rw [stepRP_load]; exact stepLP_af cfg c s l b ld h
  | cas cur x cp => rw [stepRP_cas]; exact stepCP_af cfg c cur.ptr x s l b cp h
  | intoPrev cur prev gi => rw [stepRP_intoPrev]; exact stepGI_af s gi
  | dropCur res gd => rw [stepRP_dropCur]; exact stepGD_af s gd
  | dropCurLoop prev gd => rw [stepRP_dropCurLoop]; exact stepGD_af s gd
  | attempt cur =>
    -- the closure dereferences the guard: a use after free is not an assertion of the crate
    simp only [stepRP]; split
    · exact (AF.setFault s (.uaf "deref" cur.ptr) rfl).of_eq rfl
    · exact AF.same rfl
  | done r => exact AF.same rfl

def OpSt.pre (s : Shared) (l : Locals) : OpSt → Prop
  | .load _ _ ld | .loadFull _ _ ld => ld.pre s l
  | .swapPay _ _ _ _ pp | .cinto _ _ _ pp | .dropc _ _ pp => pp.pre s l
  | .cas _ _ _ _ _ _ cp => cp.pre s l
  | .rcu _ _ _ rp => rp.pre s l
  | .exitCool cd => ∀ n, cd = .swap n → (s.nodes n).inUse = nodeUsed
  | _ => True

theorem beginOp_af (st : State) (t : Nat) (o : Op) : AF st.sh (beginOp st t o).1.sh := by
  cases o with
  | gderef g =>
    -- dereferencing a dead guard is a use after free
    simp only [beginOp]; (repeat' split) <;> first | exact AF.same rfl | exact AF.setFault st.sh _ rfl
  | _ => simp only [beginOp] <;> (repeat' split) <;> exact AF.same rfl

/-- **one step of a thread raises no assertion and no panic**, given the facts its assertions check -/
theorem microStep_af (st : State) (t : Nat) (b : Bool) (h : (st.th t).op.pre st.sh (st.th t).loc) :
    AF st.sh (microStep st t b).1.sh := by
  by_cases hi : (st.th t).op = .idle
  · simp only [microStep, hi]; split
    · exact AF.same rfl
    · rename_i txt o rest _
      exact beginOp_af { st with th := upd st.th t { prog := rest, loc := (st.th t).loc } } t o
  · -- the fault flag is that of the step of the sub-machine the operation hosts
    refine AF.of_eq ?_ (microStep_core st t b hi).fault
    generalize (st.th t).op = op at h
    cases op with
    | load c g ld | loadFull c g ld => exact stepLP_af _ c _ _ b ld h
    | swapPay c out old isStore pp => exact stepPP_af _ old c _ _ b pp h
    | cinto c x p pp | dropc c p pp => exact stepPP_af _ p c _ _ b pp h
    | cas c cur keep curPtr new g cp => exact stepCP_af _ c curPtr new _ _ b cp h
    | rcu c out tries rp => exact stepRP_af _ c _ _ b tries rp h
    | exitCool cd => exact stepCD_af _ cd h
    | loadFullInto _ _ _ gi | ginto _ _ gi => exact stepGI_af _ gi
    | dropg gd => exact stepGD_af _ gd
    | cloneh _ _ a => exact af_incObj _ a
    | droph a | swapDrop _ a | dropcDec _ a => exact af_decObj _ a
    | swapSw _ _ _ _ | finished | idle => exact AF.same rfl

end M
