import ArcSwapModel.Inv.CasCur

/-!
# The container holds the latest write

`hist c` is the ghost history of container `c`: the identities of the values written, newest
first.  `CellHist`: in every state the container holds the object whose identity is the head of
its history — the value written last; the history only grows at the front, by the identity of the
value written.  So what a `swap` takes out is what its immediate predecessor put in, and what a
load reads from the cell at some step is the value that was current at that step.
-/

namespace M
open Consts

/-- what one step does to a cell and its history -/
inductive CellStep (s s' : Shared) (c : Nat) : Prop
  | same (h1 : s'.cells c = s.cells c) (h2 : s'.hist c = s.hist c)
  | write (p : Nat) (h1 : s'.cells c = some p) (h2 : s'.hist c = s.idOf p :: s.hist c) (h3 : s'.heap = s.heap)
      (h4 : s.cells c ≠ none)
  | make (p : Nat) (h1 : s'.cells c = some p) (h2 : s'.hist c = [s.idOf p]) (h3 : s'.heap = s.heap)
  | gone (h1 : s'.cells c = none)

theorem CellStep.of_frame {s s' : Shared} (h : s'.cells = s.cells ∧ s'.hist = s.hist) (c : Nat) : CellStep s s' c :=
  .same (by rw [h.1]) (by rw [h.2])

/-- the exchange of `swap` and of a successful `compare_and_swap` -/
theorem CellStep.writeCell (s : Shared) (c p c' : Nat) (hq : s.cells c ≠ none) : CellStep s (s.writeCell c p) c' := by
  by_cases e : c' = c
  · subst e; exact .write p (upd_same _ _ _) (upd_same _ _ _) rfl hq
  · exact .same (upd_other _ _ _ _ e) (upd_other _ _ _ _ e)

theorem CellStep.of_eq {s s' s'' : Shared} {c : Nat} (h : CellStep s s' c) (e1 : s''.cells = s'.cells)
    (e2 : s''.hist = s'.hist) (e3 : s''.heap = s'.heap) : CellStep s s'' c := by
  cases h with
  | same h1 h2 => exact .same (by rw [e1, h1]) (by rw [e2, h2])
  | write p h1 h2 h3 h4 => exact .write p (by rw [e1, h1]) (by rw [e2, h2]) (by rw [e3, h3]) h4
  | make p h1 h2 h3 => exact .make p (by rw [e1, h1]) (by rw [e2, h2]) (by rw [e3, h3])
  | gone h1 => exact .gone (by rw [e1, h1])

theorem stepCP_cell_hist (cfg : Cfg) (c cur new : Nat) (s : Shared) (l : Locals) (b : Bool) (cp : CP) (c' : Nat) :
    CellStep s (stepCP cfg c cur new s l b cp).1 c' := by
  cases cp with
  | load ld => rw [stepCP_load]; exact .of_frame (stepLP_frame cfg c s l b ld) c'
  | pay old pp => rw [stepCP_pay]; exact .of_frame (stepPP_frame cfg old.ptr c s l b pp) c'
  | dropOld gd => rw [stepCP_dropOld]; exact .of_frame (stepGD_frame s gd) c'
  | cx old =>
    simp only [stepCP]
    cases hq : s.cells c with
    | none => exact .of_frame ⟨setFault_cells _ _, setFault_hist _ _⟩ c'
    | some q =>
      dsimp only
      split
      · exact .writeCell s c new c' (by rw [hq]; exact fun e => by cases e)
      · exact .same rfl rfl
  | dropNew old | decOld old => exact .of_frame ⟨decObj_cells _ _, decObj_hist _ _⟩ c'
  | done old => exact .same rfl rfl

theorem stepRP_cell_hist (cfg : Cfg) (c : Nat) (s : Shared) (l : Locals) (b : Bool) (tries : Nat) (rp : RP) (c' : Nat) :
    CellStep s (stepRP cfg c s l b tries rp).1 c' := by
  cases rp with
  | load ld => rw [stepRP_load]; exact .of_frame (stepLP_frame cfg c s l b ld) c'
  | attempt cur => simp only [stepRP, alloc]; exact .of_frame ⟨by split <;> simp only [setFault_cells], by split <;> simp only [setFault_hist]⟩ c'
  | cas cur x cp => rw [stepRP_cas]; exact stepCP_cell_hist cfg c cur.ptr x s l b cp c'
  | intoPrev cur prev gi => rw [stepRP_intoPrev]; exact .of_frame (stepGI_frame s gi) c'
  | dropCur res gd => rw [stepRP_dropCur]; exact .of_frame (stepGD_frame s gd) c'
  | dropCurLoop prev gd => rw [stepRP_dropCurLoop]; exact .of_frame (stepGD_frame s gd) c'
  | done r => exact .same rfl rfl

theorem beginOp_cell_hist (st : State) (t : Nat) (o : Op) (c' : Nat) : CellStep st.sh (beginOp st t o).1.sh c' := by
  cases o with
  | mk c0 x =>
    simp only [beginOp]
    split
    · exact .same rfl rfl
    · rename_i a ha
      by_cases e : c' = c0
      · subst e; exact .make a (upd_same _ _ _) (upd_same _ _ _) rfl
      · exact .same (upd_other _ _ _ _ e) (upd_other _ _ _ _ e)
  | gderef g =>
    simp only [beginOp]; split
    · exact .same rfl rfl
    · exact .of_frame ⟨by split <;> simp only [setFault_cells], by split <;> simp only [setFault_hist]⟩ c'
  | _ => simp only [beginOp] <;> (repeat' split) <;> exact .same rfl rfl

/-- **what a step does to a container and its history**: nothing; or a write (the history grows at
    the front by the identity of the value written, the heap stays); or its creation; or its end -/
theorem microStep_cell_hist (st : State) (t : Nat) (b : Bool) (c' : Nat) :
    CellStep st.sh (microStep st t b).1.sh c' := by
  -- a container that is consumed: gone, and nothing else changes
  have gone : ∀ {x : Shared} (c : Nat), x.cells = st.sh.cells ∧ x.hist = st.sh.hist → ∀ {y : Shared},
      y.cells = upd x.cells c none → y.hist = x.hist → CellStep st.sh y c' := by
    intro x c hx y h1 h2
    by_cases e : c' = c
    · subst e; exact .gone (by rw [h1, upd_same])
    · exact .same (by rw [h1, upd_other _ _ _ _ e, hx.1]) (by rw [h2, hx.2])
  cases hop : (st.th t).op with
  | finished => simp only [microStep, hop]; exact .same rfl rfl
  | idle =>
    simp only [microStep, hop]
    split
    · exact .same rfl rfl
    · rename_i txt o rest hp
      exact beginOp_cell_hist { st with th := upd st.th t { prog := rest, op := .idle, loc := (st.th t).loc } } t o c'
  | exitCool cd =>
    have h3 := stepCD_frame st.sh cd
    simp only [microStep, hop]; split <;> rename_i heq <;> rw [heq] at h3 <;> exact .of_frame (by exact ⟨h3.1, h3.2.1⟩) c'
  | load c g ld =>
    have h3 := stepLP_frame st.cfg c st.sh (st.th t).loc b ld
    simp only [microStep, hop]; split <;> rename_i heq <;> rw [heq] at h3 <;> exact .of_frame (by exact h3) c'
  | loadFull c x ld =>
    have h3 := stepLP_frame st.cfg c st.sh (st.th t).loc b ld
    simp only [microStep, hop]; split <;> rename_i heq <;> rw [heq] at h3 <;> (try split) <;> exact .of_frame (by exact h3) c'
  | loadFullInto c x r gi =>
    have h3 := stepGI_frame st.sh gi
    simp only [microStep, hop]; split <;> rename_i heq <;> rw [heq] at h3 <;> exact .of_frame (by exact h3) c'
  | cloneh x y a0 => simp only [microStep, hop]; exact .of_frame (by exact ⟨incObj_cells _ _, incObj_hist _ _⟩) c'
  | droph a0 => simp only [microStep, hop]; exact .of_frame (by exact ⟨decObj_cells _ _, decObj_hist _ _⟩) c'
  | dropg gd =>
    have h3 := stepGD_frame st.sh gd
    simp only [microStep, hop]; split <;> rename_i heq <;> rw [heq] at h3 <;> exact .of_frame (by exact h3) c'
  | ginto x p gi =>
    have h3 := stepGI_frame st.sh gi
    simp only [microStep, hop]; split <;> rename_i heq <;> rw [heq] at h3 <;> exact .of_frame (by exact h3) c'
  | swapSw c a0 out isStore =>
    simp only [microStep, hop]
    cases hq : st.sh.cells c with
    | none => exact .same rfl rfl
    | some old => exact .writeCell st.sh c a0 c' (by rw [hq]; exact fun e => by cases e)
  | swapPay c out old isStore pp =>
    have h3 := stepPP_frame st.cfg old c st.sh (st.th t).loc b pp
    simp only [microStep, hop]; split <;> rename_i heq <;> rw [heq] at h3 <;> (repeat' split) <;> exact .of_frame (by exact h3) c'
  | swapDrop c old => simp only [microStep, hop]; exact .of_frame (by exact ⟨decObj_cells _ _, decObj_hist _ _⟩) c'
  | cas c cur keep curPtr new g cp =>
    have h3 := stepCP_cell_hist st.cfg c curPtr new st.sh (st.th t).loc b cp c'
    simp only [microStep, hop]; split <;> rename_i heq <;> rw [heq] at h3
    · cases cur <;> cases keep <;> exact h3.of_eq rfl rfl rfl
    · exact h3
  | rcu c out tries rp =>
    have h3 := stepRP_cell_hist st.cfg c st.sh (st.th t).loc b tries rp c'
    simp only [microStep, hop]; split <;> rename_i heq <;> rw [heq] at h3
    · exact h3.of_eq rfl rfl rfl
    · exact h3
  | cinto c x p pp =>
    have h3 := stepPP_frame st.cfg p c st.sh (st.th t).loc b pp
    simp only [microStep, hop]; split <;> rename_i heq <;> rw [heq] at h3
    · exact gone c h3 rfl rfl
    · exact .of_frame (by exact h3) c'
  | dropc c p pp =>
    have h3 := stepPP_frame st.cfg p c st.sh (st.th t).loc b pp
    simp only [microStep, hop]; split <;> rename_i heq <;> rw [heq] at h3
    · split
      · exact gone c h3 rfl rfl
      · exact .of_frame (by exact h3) c'
    · exact .of_frame (by exact h3) c'
  | dropcDec c p =>
    simp only [microStep, hop]
    exact gone c ⟨decObj_cells st.sh p, decObj_hist st.sh p⟩ rfl rfl

/-- the container holds the object written last (and containers live in cells below `N`) -/
def CellHist (N : Nat) (st : State) : Prop :=
  ∀ c p, st.sh.cells c = some p → c < N ∧ ∃ rest, st.sh.hist c = st.sh.idOf p :: rest

/-- **the container holds the latest write, along every execution** that satisfies the ledger's
    assumptions and has raised no fault -/
theorem cellHist_run (K N T : Nat) (hK : 0 < K) (cfg : Cfg) (progs : Nat → List (String × Op)) :
    ∀ sched : List (Nat × Bool), EnvRun0 K N T (State.initial cfg progs) sched →
      (run (State.initial cfg progs) sched).sh.fault = none → CellHist N (run (State.initial cfg progs) sched) := by
  refine EnvRun0.induct_noFault (fun c p hc => by cases hc) ?_
  intro pre t b hepre hfpre _ hok _ hI
  have hroom := hok.room
  have hnext := hok.next
  obtain ⟨L, hL⟩ := (HazAllD.initial N T cfg progs).run pre (TameRun2.of_env hepre)
  have hcnt := stored_value_counted K N T hK cfg progs pre hepre hfpre
  generalize run (State.initial cfg progs) pre = st at *
  -- what a container holds is counted, so it keeps its identity through the step
  have hid : ∀ c p, st.sh.cells c = some p → (microStep st t b).1.sh.idOf p = st.sh.idOf p := by
    intro c p hc
    by_cases hp : p = 0
    · subst hp
      rcases microStep_same st t b 0 with h1 | ⟨v, h1⟩
      · exact h1.1
      · exact absurd h1.symm (alloc_ne_zero _ v)
    · exact (counted_keeps_identity st t b p hroom (hcnt p hp c (hI c p hc).1 hc)).1
  intro c p' hc'
  cases microStep_cell_hist st t b c with
  | same h1 h2 =>
    rw [h1] at hc'
    obtain ⟨hcN, rest, hr⟩ := hI c p' hc'
    exact ⟨hcN, rest, by rw [h2, hr, hid c p' hc']⟩
  | write p h1 h2 h3 h4 =>
    rw [h1] at hc'; cases hc'
    cases hq : st.sh.cells c with
    | none => exact absurd hq h4
    | some q =>
      refine ⟨(hI c q hq).1, st.sh.hist c, ?_⟩
      rw [h2, Shared.idOf, Shared.idOf, h3]
  | make p h1 h2 h3 =>
    rw [h1] at hc'; cases hc'
    refine ⟨?_, [], ?_⟩
    · -- the cell is below N: it was made by `mk`, or held something before
      cases hq : st.sh.cells c with
      | some q => exact (hI c q hq).1
      | none =>
        by_cases hcell : (st.th t).op.cell? = some c
        · cases hcb : (st.th t).op.cons with
          | false => exact (hL.busy.free t c hcell hcb).2.1
          | true => exact hL.busy.consN t c hcb hcell
        · by_cases hmk : (st.th t).op = .idle ∧ ∃ txt y rest, (st.th t).prog = (txt, .mk c y) :: rest
          · obtain ⟨_, txt, y, rest, hp⟩ := hmk
            exact ((hnext txt _ rest hp).1).1
          · exfalso
            have := microStep_cells_other st t b c hcell (fun hidle txt y rest hp => hmk ⟨hidle, txt, y, rest, hp⟩)
            rw [h1, hq] at this; cases this
    · rw [h2, Shared.idOf, Shared.idOf, h3]
  | gone h1 => rw [h1] at hc'; cases hc'

end M
