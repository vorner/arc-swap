import ArcSwapModel.Inv.Check

/-!
# The writer's walk, running alone, ends: a composed bound (C09, partial)

A thread inside `store`/`swap` that walks the debt list with every other thread frozen, past
nodes whose readers are not inside their fallback window (control words idle), reaches the end of
the walk within `25 · (nodes ahead) + 25` of its own steps: per node one reservation, the three
looks of `help`, nine pay-off attempts (each possibly followed by one increment) and the release.
The road is the list of `Inv/ListInv.lean`; nothing the walker does changes it or the control
words.  (With a reader inside its window the walker helps; that loop ends when the reader moves,
i.e. not by the walker alone unless it hands over — `help_retry_means_interference`.)  The step
lemma (`walkPP_step`) is about `pay_all` itself and the induction over the fuel (`walk_reaches`) about
any thread that walks; `Inv/Solo2.lean` uses both for the walks of the other operations.
-/

namespace M
open Consts

/-- the fuel below counts nine pay-off attempts per node: the fast slots and the helping slot -/
theorem slotCnt_eq : slotCnt = 8 := by decide +kernel

-- Unfolding one of these evaluates a lookup in the generated syntax tree; `slotCnt_eq` is all the proofs need.
attribute [local irreducible] Consts.slotCnt Consts.genStep Consts.nodeUsed Consts.nodeUnused Consts.nodeCooldown Consts.nodeChecking

/-- thread `t` running alone, without spurious compare-exchange failures -/
def solo (st : State) (t : Nat) : Nat → State
  | 0 => st
  | k + 1 => solo (microStep st t false).1 t k

/-- own steps still needed from a position of the walk with `k` nodes ahead -/
def walkFuel : PP → Nat → Nat
  | .start, k => 25 * k + 3
  | .inc, k => 25 * k + 2
  | .trav, k => 25 * k + 1
  | .res _, k => 25 * k
  | .hDbg0 _, k => 24 + 25 * k
  | .hDbg1 _, k => 23 + 25 * k
  | .h1 _, k => 22 + 25 * k
  | .hend _, k => 21 + 25 * k
  | .hrel _, k => 20 + 25 * k
  | .slot _ j, k => 2 * (9 - j) + 1 + 25 * k
  | .slotInc _ j, k => 2 * (9 - j) + 25 * k
  | .rel _, k => 1 + 25 * k
  | _, _ => 0

structure Road (s : Shared) (cur : Option Nat) (L : List Nat) : Prop where
  chain : chainFrom (nextOf s) cur L
  quiet : ∀ m, m ∈ L → (s.nodes m).control = .idle

def WalkAt (s : Shared) (l : Locals) : PP → List Nat → Prop
  | .start, L | .inc, L | .trav, L => Road s s.head L
  | .res m, L => Road s (some m) L
  | .hDbg0 h, L | .hDbg1 h, L | .h1 h, L =>
      (s.nodes h.who).control = .idle ∧ h.reserved = false ∧ Road s (s.nodes h.who).next L
  | .hend h, L => h.reserved = false ∧ Road s (s.nodes h.who).next L
  | .slot n j, L | .slotInc n j, L => j ≤ slotCnt ∧ Road s (s.nodes n).next L
  | .rel n, L => Road s (s.nodes n).next L
  | _, _ => False

theorem Road.frame {s s' : Shared} {cur : Option Nat} {L : List Nat} (h : Road s cur L)
    (hn : ∀ m, (s'.nodes m).next = (s.nodes m).next) (hc : ∀ m, (s'.nodes m).control = (s.nodes m).control) :
    Road s' cur L :=
  ⟨chainFrom_congr h.chain (fun n _ => hn n), fun m hm => by rw [hc m]; exact h.quiet m hm⟩

theorem Road.setNode {s : Shared} {cur : Option Nat} {L : List Nat} (h : Road s cur L) (n : Nat) (f : Node → Node)
    (h1 : ∀ nd, (f nd).next = nd.next) (h2 : ∀ nd, (f nd).control = nd.control) : Road (s.setNode n f) cur L :=
  h.frame (fun m => setNode_proj (·.next) s n m f h1) (fun m => setNode_proj (·.control) s n m f h2)

theorem Road.setFault {s : Shared} {cur : Option Nat} {L : List Nat} (h : Road s cur L) (f : Fault) :
    Road (s.setFault f) cur L := h.frame (fun _ => by rw [setFault_nodes]) (fun _ => by rw [setFault_nodes])

theorem Road.incObj {s : Shared} {cur : Option Nat} {L : List Nat} (h : Road s cur L) (a : Nat) :
    Road (incObj s a).1 cur L := h.frame (fun _ => by rw [incObj_nodes]) (fun _ => by rw [incObj_nodes])

theorem WalkAt.nextSlot {s : Shared} (l : Locals) {n j : Nat} {L : List Nat} (hj : j ≤ slotCnt)
    (hroad : Road s (s.nodes n).next L) :
    WalkAt s l (PP.nextSlot n j) L ∧ walkFuel (PP.nextSlot n j) L.length < walkFuel (.slotInc n j) L.length := by
  have hs := slotCnt_eq
  simp only [PP.nextSlot]; split
  · exact ⟨⟨by omega, hroad⟩, by simp only [walkFuel]; omega⟩
  · exact ⟨hroad, by simp only [walkFuel]; omega⟩

theorem walkPP_step (cfg : Cfg) (old c : Nat) (s : Shared) (l : Locals) (pp : PP) (L : List Nat)
    (hw : WalkAt s l pp L) (hnode : l.node.isSome = true) :
    ∃ pp' L', (stepPP cfg old c s l false pp).2.2.1 = pp' ∧
      (stepPP cfg old c s l false pp).2.1 = l ∧
      (pp' = .fin ∨
        (WalkAt (stepPP cfg old c s l false pp).1 l pp' L' ∧
          walkFuel pp' L'.length < walkFuel pp L.length)) := by
  obtain ⟨own, hown⟩ := Option.isSome_iff_exists.mp hnode
  cases pp with
  | start =>
    refine ⟨_, L, rfl, ?_, .inr ⟨?_, ?_⟩⟩ <;> simp only [stepPP, hown] <;> split <;>
      first | exact hw | (simp only [walkFuel]; omega)
  | inc =>
    refine ⟨_, L, rfl, rfl, .inr ⟨?_, ?_⟩⟩ <;> simp only [stepPP, walkFuel, WalkAt, incObj_head]
    · exact Road.incObj (cur := s.head) hw old
    · omega
  | trav =>
    cases hh : s.head with
    | none => exact ⟨_, [], rfl, rfl, .inl (by simp only [stepPP, hh])⟩
    | some m =>
      refine ⟨_, L, rfl, rfl, .inr ⟨?_, ?_⟩⟩ <;> simp only [stepPP, hh, walkFuel]
      · have hroad : Road s s.head L := hw
        rw [hh] at hroad; exact hroad
      · omega
  | res m =>
    have hroad : Road s (some m) L := hw
    cases L with
    | nil => exact hroad.chain.elim
    | cons m' rest =>
      obtain ⟨e, _, hch⟩ := hroad.chain
      cases e
      refine ⟨_, rest, rfl, ?_, .inr ⟨?_, ?_⟩⟩ <;> simp only [stepPP, hown, walkFuel, List.length_cons]
      · refine ⟨?_, rfl, ?_⟩ <;> simp only [setNode_nodes_same]
        · exact hroad.quiet m (List.mem_cons_self ..)
        · exact Road.setNode ⟨hch, fun x hx => hroad.quiet x (List.mem_cons_of_mem _ hx)⟩ _ _ (fun _ => rfl) (fun _ => rfl)
      · omega
  | hDbg0 h | hDbg1 h =>
    -- a debug assertion: at most a fault is raised
    obtain ⟨hc, hr, hroad⟩ := hw
    refine ⟨_, L, rfl, rfl, .inr ⟨?_, ?_⟩⟩ <;> simp only [stepPP, dbgInUse, walkFuel]
    · split
      · exact ⟨hc, hr, hroad⟩
      · exact ⟨by rw [setFault_nodes]; exact hc, hr, by rw [setFault_nodes]; exact hroad.setFault _⟩
    · omega
  | h1 h =>
    obtain ⟨hc, hr, hroad⟩ := hw
    refine ⟨_, L, rfl, rfl, .inr ⟨?_, ?_⟩⟩ <;> simp only [stepPP, hc, PP.dispatch, walkFuel]
    · exact ⟨hr, hroad⟩
    · omega
  | hend h =>
    obtain ⟨hr, hroad⟩ := hw
    refine ⟨_, L, rfl, rfl, .inr ⟨?_, ?_⟩⟩ <;> simp only [stepPP, hr, Bool.false_eq_true, ↓reduceIte, walkFuel]
    · exact ⟨Nat.zero_le _, hroad⟩
    · omega
  | slot n j =>
    obtain ⟨hj, hroad⟩ := hw
    -- paid off or not, the road stays; the walk goes on to the count of the value, to the next slot or to the release
    have next : ∀ {s' : Shared} {pp' : PP}, Road s' (s'.nodes n).next L → pp' = PP.nextSlot n j ∨ pp' = .slotInc n j →
        WalkAt s' l pp' L ∧ walkFuel pp' L.length < walkFuel (.slot n j) L.length := by
      rintro s' pp' hr (rfl | rfl)
      · have := WalkAt.nextSlot l hj hr
        exact ⟨this.1, by simp only [walkFuel] at this ⊢; omega⟩
      · exact ⟨⟨hj, hr⟩, by simp only [walkFuel]; omega⟩
    have paid : ∀ f : Node → Node, (∀ nd, (f nd).next = nd.next) → (∀ nd, (f nd).control = nd.control) →
        Road (s.setNode n f) ((s.setNode n f).nodes n).next L := fun f h1 h2 => by
      rw [setNode_nodes_same, h1]; exact hroad.setNode n f h1 h2
    simp only [stepPP]
    (repeat' split) <;> dsimp only <;> refine ⟨_, L, rfl, rfl, .inr (next ?_ ?_)⟩ <;>
      first | exact .inl rfl | exact .inr rfl | exact hroad | exact paid _ (fun _ => rfl) (fun _ => rfl)
  | slotInc n j =>
    obtain ⟨hj, hroad⟩ := hw
    refine ⟨_, L, rfl, rfl, .inr ?_⟩
    simp only [stepPP]
    exact WalkAt.nextSlot l hj (by rw [incObj_nodes]; exact hroad.incObj old)
  | rel n =>
    have hroad : Road s (s.nodes n).next L := hw
    cases hnx : (s.nodes n).next with
    | none => exact ⟨_, [], rfl, rfl, .inl (by simp only [stepPP, hnx])⟩
    | some m =>
      rw [hnx] at hroad
      refine ⟨_, L, rfl, rfl, .inr ⟨?_, ?_⟩⟩ <;> simp only [stepPP, hnx, walkFuel]
      · exact hroad.setNode _ _ (fun _ => rfl) (fun _ => rfl)
      · cases L with
        | nil => exact hroad.chain.elim
        | cons x r => simp only [List.length_cons]; omega
  | _ => exact hw.elim

theorem microStep_swapPay (st : State) (t : Nat) (b : Bool) {c out old : Nat} {isStore : Bool} {pp : PP}
    (hop : (st.th t).op = .swapPay c out old isStore pp)
    (hne : (stepPP st.cfg old c st.sh (st.th t).loc b pp).2.2.1 ≠ .done) :
    (microStep st t b).1.sh = (stepPP st.cfg old c st.sh (st.th t).loc b pp).1 ∧
      ((microStep st t b).1.th t).loc = (stepPP st.cfg old c st.sh (st.th t).loc b pp).2.1 ∧
      ((microStep st t b).1.th t).op = .swapPay c out old isStore (stepPP st.cfg old c st.sh (st.th t).loc b pp).2.2.1 := by
  refine ⟨?_, ?_, ?_⟩ <;> simp only [microStep, hop, upd_same]

theorem walk_step (st : State) (t c out old : Nat) (isStore : Bool) (pp : PP) (L : List Nat)
    (hop : (st.th t).op = .swapPay c out old isStore pp) (hw : WalkAt st.sh (st.th t).loc pp L)
    (hnode : (st.th t).loc.node.isSome = true) :
    ∃ pp' L', ((microStep st t false).1.th t).op = .swapPay c out old isStore pp' ∧
      ((microStep st t false).1.th t).loc = (st.th t).loc ∧
      (pp' = .fin ∨
        (WalkAt (microStep st t false).1.sh ((microStep st t false).1.th t).loc pp' L' ∧
          walkFuel pp' L'.length < walkFuel pp L.length)) := by
  obtain ⟨pp', L', h1, h2, h3⟩ := walkPP_step st.cfg old c st.sh (st.th t).loc pp L hw hnode
  have hne : (stepPP st.cfg old c st.sh (st.th t).loc false pp).2.2.1 ≠ .done := by
    rw [h1]; rintro rfl
    exact h3.elim nofun (·.1)
  obtain ⟨e1, e2, e3⟩ := microStep_swapPay st t false hop hne
  exact ⟨pp', L', e3.trans (by rw [h1]), e2.trans h2, h3.imp id (fun ⟨hw', hlt⟩ => ⟨by rw [e1, e2, h2]; exact hw', hlt⟩)⟩

/-- **a walk ends, alone**: if every own step of thread `t` at a position of the walk (`W`: what it is walking for)
    is a step of the walk, then from any position with the road ahead quiet the thread, running alone,
    reaches the end of the walk within `walkFuel + 1` of its own steps -/
theorem walk_reaches {W : State → PP → Prop} (t : Nat)
    (hstep : ∀ st pp L, W st pp → WalkAt st.sh (st.th t).loc pp L → (st.th t).loc.node.isSome = true →
      ∃ pp' L', W (microStep st t false).1 pp' ∧ ((microStep st t false).1.th t).loc = (st.th t).loc ∧
        (pp' = .fin ∨ (WalkAt (microStep st t false).1.sh ((microStep st t false).1.th t).loc pp' L' ∧
          walkFuel pp' L'.length < walkFuel pp L.length)))
    (f : Nat) : ∀ st pp L, W st pp → WalkAt st.sh (st.th t).loc pp L → (st.th t).loc.node.isSome = true →
      walkFuel pp L.length ≤ f → ∃ k, k ≤ f + 1 ∧ W (solo st t k) .fin := by
  induction f with
  | zero =>
    intro st pp L hop hw hnode hf
    obtain ⟨pp', L', h1, _, h3⟩ := hstep st pp L hop hw hnode
    rcases h3 with rfl | ⟨_, hlt⟩
    · exact ⟨1, by omega, h1⟩
    · omega
  | succ f ih =>
    intro st pp L hop hw hnode hf
    obtain ⟨pp', L', h1, h2, h3⟩ := hstep st pp L hop hw hnode
    rcases h3 with rfl | ⟨hw', hlt⟩
    · exact ⟨1, by omega, h1⟩
    · obtain ⟨k, hk, hfin⟩ := ih (microStep st t false).1 pp' L' h1 hw' (by rw [h2]; exact hnode) (by omega)
      exact ⟨k + 1, by omega, hfin⟩

theorem walk_bound_from_first_node (st : State) (t c out old : Nat) (isStore : Bool) (m : Nat) (L : List Nat)
    (hop : (st.th t).op = .swapPay c out old isStore (.res m)) (hroad : Road st.sh (some m) L)
    (hnode : (st.th t).loc.node.isSome = true) :
    ∃ k, k ≤ 25 * L.length + 1 ∧ ((solo st t k).th t).op = .swapPay c out old isStore .fin :=
  walk_reaches (W := fun st pp => (st.th t).op = .swapPay c out old isStore pp) t
    (fun st pp L => walk_step st t c out old isStore pp L) (25 * L.length) st (.res m) L hop hroad hnode (Nat.le_refl _)

theorem walk_bound_from_start (st : State) (t c out old : Nat) (isStore : Bool) (L : List Nat)
    (hop : (st.th t).op = .swapPay c out old isStore .start) (hroad : Road st.sh st.sh.head L)
    (hnode : (st.th t).loc.node.isSome = true) :
    ∃ k, k ≤ 25 * L.length + 4 ∧ ((solo st t k).th t).op = .swapPay c out old isStore .fin :=
  walk_reaches (W := fun st pp => (st.th t).op = .swapPay c out old isStore pp) t
    (fun st pp L => walk_step st t c out old isStore pp L) (25 * L.length + 3) st .start L hop hroad hnode (Nat.le_refl _)

/-- **in every reachable state**: a `store`/`swap` that has just exchanged the pointer and starts its
    walk, with no reader inside its fallback window, ends the walk alone within `25 · nNodes + 4`
    own steps — whatever the other threads were doing when they were frozen -/
theorem walk_bound_reachable {st : State} (h : Reachable st) (t c out old : Nat) (isStore : Bool)
    (hop : (st.th t).op = .swapPay c out old isStore .start) (hnode : (st.th t).loc.node.isSome = true)
    (hq : ∀ m, (st.sh.nodes m).control = .idle) :
    ∃ k, k ≤ 25 * st.sh.nNodes + 4 ∧ ((solo st t k).th t).op = .swapPay c out old isStore .fin := by
  obtain ⟨L, hL⟩ := ListInv.reachable h
  obtain ⟨k, hk, hfin⟩ := walk_bound_from_start st t c out old isStore L hop ⟨hL.1, fun m _ => hq m⟩ hnode
  have := hL.length_le
  exact ⟨k, by omega, hfin⟩

/-- non-vacuity: a road of two quiet nodes -/
example : Road ({ nodes := fun n => if n = 1 then { next := some 0 } else {}, nNodes := 2, head := some 1 } : Shared) (some 1) [1, 0] := by
  refine ⟨⟨rfl, by simp, ?_⟩, fun m _ => by dsimp only; split <;> rfl⟩
  show chainFrom _ (some 0) [0]
  exact ⟨rfl, by simp, trivial⟩

end M
