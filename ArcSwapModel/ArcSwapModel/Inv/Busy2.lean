import ArcSwapModel.Inv.Busy

/-!
# What a step does to the operation in progress, to `ctaken` and to the cells
-/

namespace M
open Consts

/-- the next operation of thread `t`, if it is about to begin one, uses registers and cells below
    `N` and creates a container on a fresh cell only -/
def Tame2 (N : Nat) (st : State) (t : Nat) : Prop :=
  (st.th t).op = .idle → ∀ txt o rest, (st.th t).prog = (txt, o) :: rest →
    o.below N ∧ ∀ c h, o = .mk c h → st.sh.cells c = none

/-- **`ctaken` changes only when a destroying operation begins** -/
theorem microStep_ctaken (st : State) (t : Nat) (b : Bool) :
    (microStep st t b).1.ctaken = st.ctaken ∨
      ((st.th t).op = .idle ∧ ∃ c, ((microStep st t b).1.th t).op.cell? = some c ∧ ((microStep st t b).1.th t).op.cons = true) := by
  by_cases hop : (st.th t).op = .idle
  · rcases (microStep_idle st t b hop).2.2 with ⟨_, _, _, e⟩ |
        ⟨_, _, _, _, ⟨_, _, e, _⟩ | ⟨_, _, _, _, _, _, e, _⟩ | ⟨c, p, h0, _⟩⟩
    · exact Or.inl e
    · exact Or.inl e
    · exact Or.inl e
    · exact Or.inr ⟨hop, c, by rcases h0 with ⟨_, _, e⟩ | ⟨_, e⟩ <;> rw [e] <;> exact ⟨rfl, rfl⟩⟩
  · exact Or.inl (microStep_next st t b hop).2.2.2.2

/-- **where an operation in progress on a container comes from**: it was in progress before (and
    destroys the container iff it did before), or it has just begun — on a container that exists and
    is not taken; a destroying one found nobody working on it and has taken it -/
theorem microStep_cellq2 (st : State) (t : Nat) (b : Bool) (c : Nat)
    (h : ((microStep st t b).1.th t).op.cell? = some c) :
    ((st.th t).op.cell? = some c ∧ ((microStep st t b).1.th t).op.cons = (st.th t).op.cons) ∨
      ((st.th t).op = .idle ∧ st.sh.cells c ≠ none ∧ st.ctaken c = false ∧ (∀ N, Tame2 N st t → c < N) ∧
        (microStep st t b).1.sh.cells = st.sh.cells ∧
        (((microStep st t b).1.th t).op.cons = false → (microStep st t b).1.ctaken = st.ctaken) ∧
        (((microStep st t b).1.th t).op.cons = true → st.sh.busy c = 0 ∧
          (microStep st t b).1.ctaken = upd st.ctaken c true ∧
          ∃ p, st.sh.cells c = some p ∧
            ((∃ x, ((microStep st t b).1.th t).op = .cinto c x p .start) ∨
              ((microStep st t b).1.th t).op = .dropc c p .start))) := by
  by_cases hop : (st.th t).op = .idle
  · right
    rcases (microStep_idle st t b hop).2.2 with ⟨h0, _⟩ |
        ⟨txt, o, rest, hp, ⟨h0, _⟩ | ⟨c', h0, h1, h2, h3, h4, h5, h6, _⟩ | ⟨c', p, h0, h1, h2, h3, h4, h5, h6, _⟩⟩
    · rw [h0] at h; cases h
    · rw [h0] at h; cases h
    · rw [h0] at h; cases h
      exact ⟨hop, h2, h3, fun N hN => h4 N (hN hop txt o rest hp).1, h6, fun _ => h5,
        fun hc => by rw [h1] at hc; cases hc⟩
    · have : c' = c := by rcases h0 with ⟨x, _, e⟩ | ⟨_, e⟩ <;> (rw [e] at h; cases h; rfl)
      subst this
      refine ⟨hop, by rw [h1]; nofun, h2, fun N hN => h4 N (hN hop txt o rest hp).1, h6, fun hc => ?_,
        fun _ => ⟨h3, h5, p, h1, ?_⟩⟩
      · rcases h0 with ⟨_, _, e⟩ | ⟨_, e⟩ <;> (rw [e] at hc; cases hc)
      · exact h0.imp (fun ⟨x, _, e⟩ => ⟨x, e⟩) (fun e => e.2)
  · rw [(microStep_next st t b hop).1] at h ⊢
    rcases OpSt.next_cell st.cfg st.sh (st.th t).loc b (st.th t).op with e | e
    · rw [e] at h; cases h
    · exact Or.inl ⟨e.1 ▸ h, e.2⟩

/-- **only an operation on a container, or its creation, writes its cell** -/
theorem microStep_cells_other (st : State) (t : Nat) (b : Bool) (c' : Nat)
    (h1 : (st.th t).op.cell? ≠ some c')
    (h2 : (st.th t).op = .idle → ∀ txt x rest, (st.th t).prog ≠ (txt, .mk c' x) :: rest) :
    (microStep st t b).1.sh.cells c' = st.sh.cells c' := by
  rcases microStep_cells_cases st t b with e | ⟨c, _, _, hc, _, _, e, _⟩ | ⟨c, hc, _, e, _⟩ | ⟨txt, c, x, rest, _, hop, hp, e⟩ <;> rw [e]
  · exact upd_other _ _ _ _ (fun ec => h1 (ec ▸ hc))
  · exact upd_other _ _ _ _ (fun ec => h1 (ec ▸ hc))
  · exact upd_other _ _ _ _ (fun ec => h2 hop txt x rest (ec ▸ hp))

/-- the walk of a destroying operation, as `(cell, value)` -/
def OpSt.consWalk (op : OpSt) (c p : Nat) : Prop :=
  (∃ x pp, op = .cinto c x p pp) ∨ (∃ pp, op = .dropc c p pp)

/-- a destroying operation that goes on leaves the cells alone -/
theorem microStep_cells_cons (st : State) (t : Nat) (b : Bool) (hc : (st.th t).op.cons = true)
    (hne : ((microStep st t b).1.th t).op ≠ .idle) : (microStep st t b).1.sh.cells = st.sh.cells := by
  rcases microStep_cells_cases st t b with e | ⟨_, _, _, _, h, _⟩ | ⟨_, _, _, _, h⟩ | ⟨_, _, _, _, _, h, _⟩
  · exact e
  · rw [hc] at h; cases h
  · exact absurd h hne
  · rw [h] at hc; cases hc

/-- a destroying operation's walk goes on with the same container and value and leaves the cells
    alone; otherwise it has just begun -/
theorem microStep_consWalk (st : State) (t : Nat) (b : Bool) (c p : Nat)
    (h : ((microStep st t b).1.th t).op.consWalk c p) :
    ((st.th t).op.consWalk c p ∧ (microStep st t b).1.sh.cells = st.sh.cells) ∨ (st.th t).op = .idle := by
  by_cases hop : (st.th t).op = .idle
  · exact Or.inr hop
  · have hne : ((microStep st t b).1.th t).op ≠ .idle := fun e => by rcases h with ⟨_, _, e'⟩ | ⟨_, e'⟩ <;> (rw [e] at e'; cases e')
    have hw : (st.th t).op.consWalk c p := by
      rw [(microStep_next st t b hop).1] at h
      cases hop' : (st.th t).op with
      | cinto c0 x p0 pp =>
        rw [hop'] at h; simp only [OpSt.next] at h
        split at h <;> rcases h with ⟨_, _, e⟩ | ⟨_, e⟩ <;> cases e
        exact Or.inl ⟨_, _, rfl⟩
      | dropc c0 p0 pp =>
        rw [hop'] at h; simp only [OpSt.next] at h
        (repeat' split at h) <;> rcases h with ⟨_, _, e⟩ | ⟨_, e⟩ <;> cases e
        exact Or.inr ⟨_, rfl⟩
      | _ => rw [hop'] at h; simp only [OpSt.next] at h <;> (repeat' split at h) <;> rcases h with ⟨_, _, e⟩ | ⟨_, e⟩ <;> cases e
    exact Or.inl ⟨hw, microStep_cells_cons st t b (by rcases hw with ⟨_, _, e⟩ | ⟨_, e⟩ <;> rw [e] <;> rfl) hne⟩

/-- the final decrement of a container drop comes from the end of its walk, with the cells as
    they were -/
theorem microStep_dropcDec (st : State) (t : Nat) (b : Bool) (c p : Nat)
    (h : ((microStep st t b).1.th t).op = .dropcDec c p) :
    (∃ pp, (st.th t).op = .dropc c p pp) ∧ (microStep st t b).1.sh.cells = st.sh.cells := by
  by_cases hop : (st.th t).op = .idle
  · exfalso
    rcases (microStep_idle st t b hop).2.2 with ⟨h0, _⟩ | ⟨_, _, _, _, ⟨h0, _⟩ | ⟨_, _, h0, _⟩ | ⟨_, _, h0, _⟩⟩
    · rw [h] at h0; cases h0
    · rw [h] at h0; cases h0
    · rw [h] at h0; cases h0
    · rcases h0 with ⟨_, _, e⟩ | ⟨_, e⟩ <;> (rw [h] at e; cases e)
  · have hd : ∃ pp, (st.th t).op = .dropc c p pp := by
      rw [(microStep_next st t b hop).1] at h
      cases hop' : (st.th t).op with
      | dropc c0 p0 pp =>
        rw [hop'] at h; simp only [OpSt.next] at h
        (repeat' split at h) <;> cases h
        exact ⟨_, rfl⟩
      | _ => rw [hop'] at h; simp only [OpSt.next] at h <;> (repeat' split at h) <;> cases h
    obtain ⟨pp, e⟩ := hd
    exact ⟨⟨pp, e⟩, microStep_cells_cons st t b (by rw [e]; rfl) (by rw [h]; nofun)⟩

end M
