import ArcSwapModel.M.Upd

/-!
# Conservation of references: every step, for every shared state

A reference to the value at address `a` is *somewhere* at every moment: in the value's strong
count, or standing in for it as an occupied debt slot (a debt is a reference the container still
holds on the borrower's behalf).  On the other side of the ledger are the places that own
references: registers (containers, handles, guards) and the thread-local state of the operations
in flight — `units`, defined per program counter below (a borrowed guard, or a load that has
published its debt, counts one: it will either give the slot back or find it paid and own a
reference instead).

The theorems of this file are per step and for **any** shared state (nothing is assumed about what
other threads did or are doing): each step of the read path (`LP`), of a guard drop (`GD`) or
promotion (`GI`) and of the writer's walk (`PP`, helping included) changes

    potential(a) = strong count of a + number of debt slots holding a

by exactly the change of the stepping thread's `units(a)`.  The only two steps that move a
reference between threads other than through a slot are the two ends of a hand-over (the helper's
successful compare-exchange on the reader's control word gives its reference `r` away; the reader's
read of the envelope receives it): they are stated separately (`…_handover_gives`,
`…_handover_receives`).

A state that hosts another sub-machine (`.get ng`, `.hload h ld`, `.cas cur a cp`, …) conserves because
the hosted step does: the host's units are the hosted machine's plus a constant, before the step and
after it (`u…_after…`, one lemma per hosting state).
-/

namespace M
open Consts

-- Unfolding one of these evaluates a lookup in the generated syntax tree; no proof below needs a value.
attribute [local irreducible] Consts.slotCnt Consts.genStep Consts.nodeUsed Consts.nodeUnused Consts.nodeCooldown Consts.nodeChecking

def sumN (f : Nat → Nat) : Nat → Nat
  | 0 => 0
  | k + 1 => sumN f k + f k

theorem sumN_congr {f g : Nat → Nat} {K : Nat} (h : ∀ n, n < K → f n = g n) : sumN f K = sumN g K := by
  induction K with
  | zero => rfl
  | succ k ih => simp only [sumN, ih (fun n hn => h n (by omega)), h k (by omega)]

theorem sumN_upd {f g : Nat → Nat} {K n : Nat} (hn : n < K) (h : ∀ m, m ≠ n → g m = f m) :
    sumN g K + f n = sumN f K + g n := by
  induction K with
  | zero => omega
  | succ k ih =>
    by_cases hk : k = n
    · subst hk
      have : sumN g k = sumN f k := sumN_congr (fun m hm => h m (by omega))
      simp only [sumN, this]; omega
    · have := ih (by omega)
      simp only [sumN, h k hk]; omega

theorem sumN_set {α : Type} (f : Nat → α) (w : α → Nat) (i : Nat) (v : α) {N : Nat} (hi : i < N) :
    sumN (fun k => w (upd f i v k)) N + w (f i) = sumN (fun k => w (f k)) N + w v := by
  have := @sumN_upd (fun k => w (f k)) (fun k => w (upd f i v k)) N i hi (fun m hm => by rw [upd_other _ _ _ _ hm])
  rw [upd_same] at this; exact this

def ind (p : Prop) [Decidable p] : Nat := if p then 1 else 0

/-- one reference to `a` if `p = a` (never for null, as `a ≠ 0` throughout) -/
def u (p a : Nat) : Nat := if p = a then 1 else 0

def occN (nd : Node) (a : Nat) : Nat :=
  sumN (fun i => ind (nd.fast i = .ptr a)) slotCnt + ind (nd.hslot = .ptr a)

def occ (K : Nat) (nodes : Nat → Node) (a : Nat) : Nat := sumN (fun n => occN (nodes n) a) K

def pot (K : Nat) (s : Shared) (a : Nat) : Nat := (s.heap a).cnt + occ K s.nodes a

def Beyond (s : Shared) : Prop :=
  ∀ n, s.nNodes ≤ n → (∀ i, (s.nodes n).fast i = .none) ∧ (s.nodes n).hslot = .none

theorem setFault_ne_none (s : Shared) (f : Fault) : (s.setFault f).fault ≠ none := by
  unfold Shared.setFault; split <;> simp_all

theorem pot_frame {K : Nat} {s s' : Shared} {a : Nat} (hh : s'.heap = s.heap)
    (hn : ∀ n, (s'.nodes n).fast = (s.nodes n).fast ∧ (s'.nodes n).hslot = (s.nodes n).hslot) :
    pot K s' a = pot K s a := by
  simp only [pot, hh, occ]
  congr 1
  apply sumN_congr; intro n _
  simp only [occN, (hn n).1, (hn n).2]

@[simp] theorem pot_setNode_frame (K : Nat) (s : Shared) (n : Nat) (f : Node → Node) (a : Nat)
    (hf : ∀ nd, (f nd).fast = nd.fast ∧ (f nd).hslot = nd.hslot) :
    pot K (s.setNode n f) a = pot K s a :=
  pot_frame rfl fun m =>
    ⟨setNode_proj (·.fast) s n m f fun nd => (hf nd).1, setNode_proj (·.hslot) s n m f fun nd => (hf nd).2⟩

@[simp] theorem pot_set_inUse (K : Nat) (s : Shared) (n : Nat) (v : Nat) (a : Nat) :
    pot K (s.setNode n fun nd => { nd with inUse := v }) a = pot K s a :=
  pot_setNode_frame K s _ _ a (fun _ => ⟨rfl, rfl⟩)

theorem pot_setNode (K : Nat) (s : Shared) (n : Nat) (f : Node → Node) (a : Nat) (hn : n < K) :
    pot K (s.setNode n f) a + occN (s.nodes n) a = pot K s a + occN (f (s.nodes n)) a := by
  have := @sumN_upd (fun m => occN (s.nodes m) a) (fun m => occN ((s.setNode n f).nodes m) a) K n hn
    (fun m hm => by rw [setNode_nodes_other _ _ _ _ hm])
  simp only [pot, setNode_heap, occ, setNode_nodes_same] at this ⊢
  omega

theorem pot_setFast (K : Nat) (s : Shared) (n i : Nat) (v : Val) (a : Nat) (hn : n < K) (hi : i < slotCnt) :
    pot K (s.setNode n fun nd => { nd with fast := upd nd.fast i v }) a + ind ((s.nodes n).fast i = .ptr a)
      = pot K s a + ind (v = .ptr a) := by
  have h1 := pot_setNode K s n (fun nd => { nd with fast := upd nd.fast i v }) a hn
  have h2 := sumN_set (s.nodes n).fast (fun x => ind (x = .ptr a)) i v hi
  simp only [occN] at h1
  omega

theorem pot_setHslot (K : Nat) (s : Shared) (n : Nat) (v : Val) (a : Nat) (hn : n < K) :
    pot K (s.setNode n fun nd => { nd with hslot := v }) a + ind ((s.nodes n).hslot = .ptr a)
      = pot K s a + ind (v = .ptr a) := by
  have h1 := pot_setNode K s n (fun nd => { nd with hslot := v }) a hn
  simp only [occN] at h1
  omega

theorem ind_ptr (p a : Nat) : ind (Val.ptr p = Val.ptr a) = u p a := by
  simp only [ind, u, Val.ptr.injEq]

theorem ind_none (a : Nat) : ind (Val.none = Val.ptr a) = 0 := by simp [ind]

theorem u_zero (a : Nat) (ha : a ≠ 0) : u 0 a = 0 := by
  simp only [u]; split
  · rename_i h; exact absurd h.symm ha
  · rfl

theorem pot_payFast (K : Nat) (s : Shared) (n i p a : Nat) (hn : n < K) (hi : i < slotCnt)
    (hc : (s.nodes n).fast i = .ptr p) :
    pot K (s.setNode n fun nd => { nd with fast := upd nd.fast i .none }) a + u p a = pot K s a := by
  have := pot_setFast K s n i .none a hn hi
  rw [hc, ind_ptr, ind_none] at this; exact this

theorem pot_payHslot (K : Nat) (s : Shared) (n p a : Nat) (hn : n < K) (hc : (s.nodes n).hslot = .ptr p) :
    pot K (s.setNode n fun nd => { nd with hslot := .none }) a + u p a = pot K s a := by
  have := pot_setHslot K s n .none a hn
  rw [hc, ind_ptr, ind_none] at this; exact this

/-- the count of `p` is written: `y` more references, or `x` fewer -/
theorem pot_setCnt (K : Nat) (s : Shared) (p : Nat) (o : Obj) (a x y : Nat) (h : o.cnt + x = (s.heap p).cnt + y) :
    pot K { s with heap := upd s.heap p o } a + x * u p a = pot K s a + y * u p a := by
  simp only [pot, u, upd]
  by_cases hp : a = p
  · subst hp; simp only [↓reduceIte]; omega
  · simp only [hp, Ne.symm hp, ↓reduceIte]; omega

theorem pot_inc (K : Nat) (s : Shared) (p a : Nat) (hf : (incObj s p).1.fault = none) :
    pot K (incObj s p).1 a = pot K s a + u p a := by
  simp only [incObj] at hf ⊢
  by_cases hl : (s.heap p).live = true
  · have := pot_setCnt K s p { s.heap p with cnt := (s.heap p).cnt + 1 } a 0 1 rfl
    rw [if_pos hl]; dsimp only at this ⊢; omega
  · simp only [hl] at hf; exact absurd hf (setFault_ne_none _ _)

theorem pot_dec (K : Nat) (s : Shared) (p a : Nat) (hf : (decObj s p).1.fault = none) :
    pot K (decObj s p).1 a + u p a = pot K s a := by
  simp only [decObj] at hf ⊢
  by_cases hl : (s.heap p).live = true
  · by_cases h0 : (s.heap p).cnt = 0
    · simp only [hl, h0, ↓reduceIte] at hf; exact absurd hf (setFault_ne_none _ _)
    · rw [if_pos hl, if_neg h0]
      split
      · rename_i h1
        have := pot_setCnt K s p { s.heap p with cnt := 0, live := false } a 1 0 h1.symm
        dsimp only at this ⊢; omega
      · have := pot_setCnt K s p { s.heap p with cnt := (s.heap p).cnt - 1 } a 1 0 (by dsimp only; omega)
        dsimp only at this ⊢; omega
  · simp only [hl] at hf; exact absurd hf (setFault_ne_none _ _)

@[simp] theorem pot_setFault (K : Nat) (s : Shared) (f : Fault) (a : Nat) : pot K (s.setFault f) a = pot K s a :=
  pot_frame (by simp) (fun n => by simp)

@[simp] theorem pot_dbgInUse (K : Nat) (s : Shared) (n : Nat) (site : String) (a : Nat) :
    pot K (dbgInUse s n site) a = pot K s a := by
  unfold dbgInUse; split <;> simp

theorem pot_ite_setFault (K : Nat) (x : Shared) (c : Prop) [Decidable c] (f : Fault) (a : Nat) :
    pot K (if c then x else x.setFault f) a = pot K x a := by split <;> simp

/-- the step moves `U` units of the stepping thread into `U'`, the potential absorbing the rest -/
def Cons (K : Nat) (s s' : Shared) (U U' : Nat → Nat) : Prop :=
  ∀ a, a ≠ 0 → pot K s' a + U a = pot K s a + U' a

def uGD : GD → Nat → Nat
  | .pay p _ _ => u p
  | .dec p => u p
  | .done => fun _ => 0

def GD.ok (K : Nat) : GD → Prop
  | .pay _ n idx => n < K ∧ idx < slotCnt
  | _ => True

/-- **Guard drop conserves**: giving the slot back, or finding it paid and releasing the reference
    received instead — whichever the shared state makes happen. -/
theorem stepGD_cons (K : Nat) (s : Shared) (gd : GD) (hk : gd.ok K) (hf : (stepGD s gd).1.fault = none) :
    Cons K s (stepGD s gd).1 (uGD gd) (uGD (stepGD s gd).2.1) := by
  intro a ha
  cases gd with
  | pay p n idx =>
    simp only [stepGD]
    split
    · rename_i hc
      have := pot_payFast K s n idx p a hk.1 hk.2 hc
      simp only [uGD]; omega
    · split
      · rename_i h0; subst h0; simp [uGD, u_zero a ha]
      · simp [uGD]
  | dec p =>
    have := pot_dec K s p a hf
    simp only [stepGD, uGD]; omega
  | done => simp [stepGD, uGD]

/-- units of a promotion in progress; when it is finished the caller holds one full reference -/
def uGI (r : Nat) : GI → Nat → Nat
  | .inc p _ _ => u p
  | .pay p _ _ => fun a => 2 * u p a
  | .dec p => fun a => 2 * u p a
  | .done => u r

def GI.ok (K r : Nat) : GI → Prop
  | .inc p n idx => n < K ∧ idx < slotCnt ∧ p = r
  | .pay p n idx => n < K ∧ idx < slotCnt ∧ p = r
  | .dec p => p = r
  | .done => True

/-- **`Guard::into_inner` conserves**: take a reference first, then give the slot back — or find it
    paid, and release the surplus. -/
theorem stepGI_cons (K r : Nat) (s : Shared) (gi : GI) (hk : gi.ok K r) (hf : (stepGI s gi).1.fault = none) :
    Cons K s (stepGI s gi).1 (uGI r gi) (uGI r (stepGI s gi).2.1) := by
  intro a ha
  cases gi with
  | inc p n idx =>
    have := pot_inc K s p a hf
    simp only [stepGI, uGI]; omega
  | pay p n idx =>
    obtain ⟨h1, h2, rfl⟩ := hk
    simp only [stepGI]
    split
    · rename_i hc
      have := pot_payFast K s n idx p a h1 h2 hc
      simp only [uGI]; omega
    · split
      · rename_i h0; subst h0; simp [uGI, u_zero a ha]
      · simp [uGI]
  | dec p =>
    obtain rfl := hk
    have := pot_dec K s p a hf
    simp only [stepGI, uGI]; omega
  | done => simp [stepGI, uGI]

theorem GI.ok_step (K r : Nat) (s : Shared) (gi : GI) (hk : gi.ok K r) : (stepGI s gi).2.1.ok K r := by
  cases gi with
  | inc p n idx => exact hk
  | pay p n idx =>
    simp only [stepGI]; split
    · trivial
    · split
      · trivial
      · exact hk.2.2
  | dec _ | done => trivial

theorem stepCD_pot (K : Nat) (s : Shared) (cd : CD) (a : Nat) : pot K (stepCD s cd).1 a = pot K s a :=
  pot_frame (stepCD_frame s cd).2.2 fun m =>
    ⟨stepCD_proj (·.fast) s cd (fun _ _ => rfl) (fun _ _ => rfl) m,
      stepCD_proj (·.hslot) s cd (fun _ _ => rfl) (fun _ _ => rfl) m⟩

theorem Beyond.setNode_frame {s : Shared} (hb : Beyond s) (n : Nat) (f : Node → Node)
    (hf : ∀ nd, (f nd).fast = nd.fast ∧ (f nd).hslot = nd.hslot) : Beyond (s.setNode n f) := by
  intro m hm
  rw [setNode_proj (·.fast) s n m f fun nd => (hf nd).1, setNode_proj (·.hslot) s n m f fun nd => (hf nd).2]
  exact hb m hm

/-- a new node is linked with every slot empty, where there was an empty node before -/
theorem stepNG_slots (s : Shared) (b : Bool) (ng : NG) (hb : Beyond s) (m : Nat) :
    ((stepNG s b ng).1.nodes m).fast = (s.nodes m).fast ∧ ((stepNG s b ng).1.nodes m).hslot = (s.nodes m).hslot :=
  have hB := hb s.nNodes (Nat.le_refl _)
  ⟨stepNG_proj (·.fast) s b ng (fun _ _ => rfl) (fun _ _ => rfl) (funext hB.1).symm m,
    stepNG_proj (·.hslot) s b ng (fun _ _ => rfl) (fun _ _ => rfl) hB.2.symm m⟩

theorem stepNG_pot (K : Nat) (s : Shared) (b : Bool) (ng : NG) (a : Nat) (hb : Beyond s) :
    pot K (stepNG s b ng).1 a = pot K s a :=
  pot_frame (stepNG_frame s b ng).2.2 (stepNG_slots s b ng hb)

/-- units of a load in progress: a published debt counts one (the slot will be given back, or
    found paid: then it *is* a reference); a confirmed fallback candidate that was also counted in
    counts two until the slot is settled; a replacement received from a helper counts one more -/
def uLP : LP → Nat → Nat
  | .a3 p _ | .a4 p _ | .a4dec p => u p
  | .f5 _ cand | .fokInc cand | .fr1 cand _ => u cand
  | .fokPay cand | .fokDec cand => fun a => 2 * u cand a
  | .fr2 cand _ r | .frPay cand r | .frDec cand r => fun a => u cand a + u r a
  | .done p _ => u p
  | _ => fun _ => 0

def LP.ok (K : Nat) : LP → Prop
  | .pswap _ idx | .a3 _ idx | .a4 _ idx => idx < slotCnt
  | .fr1 _ _ => False        -- receiving end of a hand-over: stated separately
  | .done _ d => ∀ n idx, d = some (n, idx) → n < K ∧ idx < slotCnt
  | _ => True

theorem uLP_afterGet (cfg : Cfg) (ng : NG) (a : Nat) : uLP (LP.afterGet cfg ng) a = 0 := by
  cases ng <;> simp only [LP.afterGet] <;> (try split) <;> rfl

theorem uLP_afterReget (ng : NG) (a : Nat) : uLP (LP.afterReget ng) a = 0 := by cases ng <;> rfl

theorem uLP_afterCool (cd : CD) (a : Nat) : uLP (LP.afterCool cd) a = 0 := by cases cd <;> rfl

/-- **Every step of `load` conserves** (both paths, whatever the shared state is): publishing a
    debt, confirming, giving it back on a mismatch or releasing what a writer paid meanwhile,
    counting the fallback candidate in and settling its slot, settling the slot after a hand-over. -/
theorem stepLP_cons (K : Nat) (cfg : Cfg) (c : Nat) (s : Shared) (l : Locals) (b : Bool) (lp : LP)
    (hk : lp.ok K) (hn : l.node.getD 0 < K) (hb : Beyond s) (hf : (stepLP cfg c s l b lp).1.fault = none) :
    Cons K s (stepLP cfg c s l b lp).1 (uLP lp) (uLP (stepLP cfg c s l b lp).2.2.1) := by
  intro a ha
  have u0 := u_zero a ha
  cases lp with
  | get ng => rw [stepLP_get, uLP_afterGet, stepNG_pot K s b ng a hb]; rfl
  | reget ng => rw [stepLP_reget, uLP_afterReget, stepNG_pot K s b ng a hb]; rfl
  | cool cd => rw [stepLP_cool, uLP_afterCool, stepCD_pot]; rfl
  | start | a1 | nfDbg _ | nhDbg | f3 _ | chDbg _ _ => simp only [stepLP]; split <;> (try split) <;> simp [uLP, u0]
  | probe p i => simp only [stepLP]; (repeat' split) <;> simp [uLP]
  | f1 | fr2 _ _ _ | done _ _ => simp [stepLP, uLP]
  | f2 g => simp only [stepLP, uLP]; rw [pot_ite_setFault]; simp
  | pswap p idx =>
    simp only [stepLP] at hf ⊢
    have h1 := pot_setFast K s (l.node.getD 0) idx (.ptr p) a hn hk
    by_cases ho : (s.nodes (l.node.getD 0)).fast idx = .none
    · simp only [ho, ↓reduceIte, ind_none, ind_ptr] at h1 ⊢
      simp only [uLP]; omega
    · simp only [ho, ↓reduceIte] at hf; exact absurd hf (setFault_ne_none _ _)
  | a3 p idx =>
    simp only [stepLP] at hf ⊢
    split
    · split <;> simp [uLP]
    · rename_i hc; simp only [hc] at hf; exact absurd hf (setFault_ne_none _ _)
  | a4 p idx =>
    simp only [stepLP]
    split
    · rename_i hc
      have := pot_payFast K s (l.node.getD 0) idx p a hn hk hc
      simp only [uLP]; omega
    · split
      · rename_i h0; subst h0; simp [uLP, u0]
      · simp [uLP]
  | a4dec p | fokDec p | frDec p _ =>
    have := pot_dec K s p a hf
    simp only [stepLP, uLP]; omega
  | f4 g cand =>
    simp only [stepLP] at hf ⊢
    have h1 := pot_setHslot K s (l.node.getD 0) (.ptr cand) a hn
    by_cases ho : (s.nodes (l.node.getD 0)).hslot = .none
    · simp only [ho, ↓reduceIte, ind_none, ind_ptr] at h1 ⊢
      simp only [uLP]; omega
    · simp only [ho, ↓reduceIte] at hf; exact absurd hf (setFault_ne_none _ _)
  | f5 g cand =>
    simp only [stepLP] at hf ⊢
    split
    · split
      · rename_i h0; subst h0; simp [uLP, u0]
      · simp [uLP]
    · rename_i hx
      simp only [hx, ↓reduceIte] at hf
      split
      · simp [uLP]
      · rename_i hne
        split at hf
        · rename_i j hj; exact absurd hj (hne j)
        · exact absurd hf (setFault_ne_none _ _)
  | fokInc cand =>
    have := pot_inc K s cand a hf
    simp only [stepLP, uLP]; omega
  | fokPay cand | frPay cand _ =>
    simp only [stepLP]
    split
    · rename_i hc
      have := pot_payHslot K s (l.node.getD 0) cand a hn hc
      simp only [uLP]; omega
    · split
      · rename_i h0; subst h0; simp [uLP, u0]
      · simp [uLP]
  | fr1 cand j => exact absurd hk id

/-- the receiving end of a hand-over: reading the envelope named by the control word brings the
    reference the helper left there into the reader's hands -/
theorem stepLP_handover_receives (K : Nat) (cfg : Cfg) (c : Nat) (s : Shared) (l : Locals) (b : Bool)
    (cand j r : Nat) (he : (s.nodes j).envelope = .ptr r) (a : Nat) :
    pot K (stepLP cfg c s l b (.fr1 cand j)).1 a + uLP (.fr1 cand j) a + u r a
      = pot K s a + uLP (stepLP cfg c s l b (.fr1 cand j)).2.2.1 a := by
  simp only [stepLP, he, uLP]; omega

theorem LP.ok_step (K : Nat) (cfg : Cfg) (c : Nat) (s : Shared) (l : Locals) (b : Bool) (lp : LP) (hk : lp.ok K)
    (hn : l.node.getD 0 < K)
    (hnh : ∀ j, (s.nodes (l.node.getD 0)).control ≠ .env j) : (stepLP cfg c s l b lp).2.2.1.ok K := by
  have dn : ∀ p, (LP.done p none).ok K := fun p n idx h => by cases h
  cases lp with
  | get ng => rw [stepLP_get]; cases (stepNG s b ng).2.1 <;> simp only [LP.afterGet] <;> (try split) <;> trivial
  | reget ng => rw [stepLP_reget]; cases (stepNG s b ng).2.1 <;> trivial
  | cool cd => rw [stepLP_cool]; cases (stepCD s cd).2.1 <;> trivial
  | probe p i =>
    simp only [stepLP]
    split
    · exact Nat.mod_lt _ Consts.slotCnt_pos
    · split <;> trivial
  | f5 g cand =>
    simp only [stepLP]; (repeat' split) <;> first | exact dn _ | trivial | (rename_i j hj; exact absurd hj (hnh j))
  | fr1 cand j => exact absurd hk id
  | pswap _ _ | done _ _ => exact hk
  | a3 p idx =>
    simp only [stepLP]; split
    · split
      · intro n idx' h; simp only [Option.some.injEq, Prod.mk.injEq] at h
        obtain ⟨rfl, rfl⟩ := h; exact ⟨hn, hk⟩
      · exact hk
    · exact dn _
  | _ => simp only [stepLP] <;> (repeat' split) <;> first | exact dn _ | trivial

/-- units of a walk for the value `p`: the spare reference taken before the walk (consumed by each
    slot paid and taken again), what a nested load holds while helping, the replacement while it is
    being offered -/
def uPP (p : Nat) : PP → Nat → Nat
  | .start | .get _ | .inc | .slotInc _ _ | .done => fun _ => 0
  | .hload _ ld => fun a => u p a + uLP ld a
  | .hinto _ r gi => fun a => u p a + uGI r gi a
  | .h4 _ r | .h5 _ r _ | .h6 _ r _ _ | .h7 _ r _ _ | .hdrop _ r => fun a => u p a + u r a
  | _ => u p

def PP.ok (K : Nat) : PP → Prop
  | .hload _ ld => ld.ok K
  | .hinto _ r gi => gi.ok K r
  | _ => True

theorem uPP_dispatch (p : Nat) (h : HL) : uPP p (PP.dispatch h) = u p := by
  unfold PP.dispatch; split <;> rfl

theorem uPP_nextSlot (p n j : Nat) : uPP p (PP.nextSlot n j) = u p := by
  unfold PP.nextSlot; split <;> rfl

def uG (g : Guard) : Nat → Nat := u g.ptr

theorem uGD_ofGuard (g : Guard) (a : Nat) (ha : a ≠ 0) : uGD (GD.ofGuard g) a = uG g a := by
  unfold GD.ofGuard uG
  cases hd : g.debt with
  | some nd => simp [uGD]
  | none =>
    dsimp only
    split
    · rename_i h0; rw [h0]; simp [uGD, u_zero a ha]
    · simp [uGD]

theorem uGI_ofGuard (g : Guard) (a : Nat) (ha : a ≠ 0) (hne : GI.ofGuard g ≠ .done) :
    uGI g.ptr (GI.ofGuard g) a = uG g a := by
  unfold GI.ofGuard uG at *
  cases hd : g.debt with
  | none => simp [hd] at hne
  | some nd =>
    dsimp only
    split
    · rename_i h0; rw [h0]; simp [uGI, u_zero a ha]
    · simp [uGI]

theorem uPP_afterGet (p : Nat) (ng : NG) (a : Nat) (ha : a ≠ 0) : uPP p (PP.afterGet p ng) a = 0 := by
  cases ng <;> simp only [PP.afterGet] <;> (try split) <;> first | rfl | (rename_i h0; subst h0; exact u_zero a ha)

theorem uPP_afterLoad (p : Nat) (h : HL) (ld : LP) (a : Nat) (ha : a ≠ 0) :
    uPP p (PP.afterLoad h ld) a = u p a + uLP ld a := by
  cases ld <;> simp only [PP.afterLoad] <;> (try split) <;> first | rfl | skip
  rename_i r d hne
  exact congrArg (u p a + ·) (uGI_ofGuard { ptr := r, debt := d } a ha hne)

theorem uPP_afterInto (p : Nat) (h : HL) (r : Nat) (gi : GI) (a : Nat) :
    uPP p (PP.afterInto h r gi) a = u p a + uGI r gi a := by cases gi <;> rfl

/-- **Every step of the writer's walk conserves**, for any shared state: the spare reference is
    spent on exactly the slots whose compare-exchange succeeds and re-taken each time, the nested
    load and its promotion while helping conserve, a replacement that could not be handed over is
    released, and the spare is released at the end.  (The successful hand-over itself gives the
    replacement away: `stepPP_handover_gives`.) -/
theorem stepPP_cons (K : Nat) (cfg : Cfg) (p c : Nat) (s : Shared) (l : Locals) (b : Bool) (pp : PP)
    (hk : pp.ok K) (hn : l.node.getD 0 < K) (hb : Beyond s) (hK : s.nNodes ≤ K)
    (hnh : ∀ h r t m, pp = .h7 h r t m → (s.nodes h.who).control ≠ h.ctl)
    (hf : (stepPP cfg p c s l b pp).1.fault = none) :
    Cons K s (stepPP cfg p c s l b pp).1 (uPP p pp) (uPP p (stepPP cfg p c s l b pp).2.2.1) := by
  intro a ha
  have u0 := u_zero a ha
  cases pp with
  | get ng => rw [stepPP_get, uPP_afterGet p _ a ha, stepNG_pot K s b ng a hb]; rfl
  | hload h ld =>
    rw [stepPP_hload] at hf ⊢
    have := stepLP_cons K cfg c s l b ld hk hn hb hf a ha
    rw [uPP_afterLoad p h _ a ha]; simp only [uPP]; omega
  | hinto h r gi =>
    rw [stepPP_hinto] at hf ⊢
    have := stepGI_cons K r s gi hk hf a ha
    rw [uPP_afterInto]; simp only [uPP]; omega
  | start =>
    simp only [stepPP]; split
    · simp [uPP]
    · split
      · rename_i h0; subst h0; simp [uPP, u0]
      · simp [uPP]
  | hDbg0 _ | hres _ | h4 _ _ | h5 _ _ _ | h6 _ _ _ _ | h8 _ _ | hrel _ | done => simp [stepPP, uPP, uLP]
  | trav | hend _ | rel _ => simp only [stepPP]; split <;> simp [uPP]
  | inc =>
    have := pot_inc K s p a hf
    simp only [stepPP, uPP]; omega
  | slotInc n j =>
    have := pot_inc K s p a hf
    simp only [stepPP]; rw [uPP_nextSlot]; simp only [uPP]; omega
  | dec =>
    have := pot_dec K s p a hf
    simp only [stepPP, uPP]; omega
  | hdrop h r =>
    have := pot_dec K s r a hf
    simp only [stepPP]; rw [uPP_dispatch]; simp only [uPP]; omega
  | res n =>
    simp only [stepPP] at hf ⊢
    split
    · rename_i hl; simp only [hl] at hf; exact absurd hf (setFault_ne_none _ _)
    · simp [uPP]
  | hDbg1 h => simp only [stepPP, uPP]; rw [pot_ite_setFault]
  | h1 h => simp only [stepPP]; rw [uPP_dispatch]; simp [uPP]
  | h2 h =>
    simp only [stepPP]
    (repeat' split) <;> simp [uPP, uLP]
  | h3 h =>
    simp only [stepPP]; split
    · simp [uPP]
    · rw [uPP_dispatch]; simp [uPP]
  | h7 h r t m =>
    simp only [stepPP]
    split
    · rename_i hx; exact absurd hx (hnh h r t m rfl)
    · split
      · rename_i h0; subst h0; rw [uPP_dispatch]; simp [uPP, u0]
      · simp [uPP]
  | slot n j =>
    have paid : ∀ s', pot K s' a + u p a = pot K s a →
        pot K s' a + uPP p (.slot n j) a = pot K s a + uPP p (if p = 0 then PP.nextSlot n j else .slotInc n j) a := by
      intro s' h
      split
      · rename_i h0; subst h0; rw [uPP_nextSlot]; simp only [uPP]; omega
      · simp only [uPP]; omega
    simp only [stepPP]
    split
    · rename_i hj
      split
      · rename_i hc
        have hnK : n < K := Classical.byContradiction fun hge => by
          have := (hb n (by omega)).1 j; rw [this] at hc; cases hc
        exact paid _ (pot_payFast K s n j p a hnK hj hc)
      · rw [uPP_nextSlot]; simp [uPP]
    · split
      · rename_i hc
        have hnK : n < K := Classical.byContradiction fun hge => by
          have := (hb n (by omega)).2; rw [this] at hc; cases hc
        exact paid _ (pot_payHslot K s n p a hnK hc)
      · rw [uPP_nextSlot]; simp [uPP]
  | fin =>
    simp only [stepPP]; split
    · rename_i h0; subst h0; simp [uPP, u0]
    · simp [uPP]

/-- the giving end of a hand-over: the helper's successful compare-exchange on the reader's control
    word moves the replacement `r` out of the helper's hands (into the envelope it names) -/
theorem stepPP_handover_gives (K : Nat) (cfg : Cfg) (p c : Nat) (s : Shared) (l : Locals) (b : Bool)
    (h : HL) (r t m : Nat) (hx : (s.nodes h.who).control = h.ctl) (a : Nat) :
    pot K (stepPP cfg p c s l b (.h7 h r t m)).1 a + uPP p (.h7 h r t m) a
      = pot K s a + uPP p (stepPP cfg p c s l b (.h7 h r t m)).2.2.1 a + u r a := by
  simp only [stepPP, hx, ↓reduceIte, uPP, pot_setNode_frame, implies_true, and_self]; omega

def cellsU (N : Nat) (s : Shared) (a : Nat) : Nat := sumN (fun c => ind (s.cells c = some a)) N

def ConsC (K N : Nat) (s s' : Shared) (U U' : Nat → Nat) : Prop :=
  ∀ a, a ≠ 0 → pot K s' a + cellsU N s a + U a = pot K s a + cellsU N s' a + U' a

theorem ConsC.of_cons {K N : Nat} {s s' : Shared} {U U' : Nat → Nat} (h : Cons K s s' U U')
    (hc : s'.cells = s.cells) : ConsC K N s s' U U' := by
  intro a ha
  have := h a ha
  simp only [cellsU, hc]; omega

theorem ind_some (p a : Nat) : ind (some p = some a) = u p a := by
  simp only [ind, u, Option.some.injEq]

theorem cellsU_write (N : Nat) (s : Shared) (c p a : Nat) (hc : c < N) :
    cellsU N (s.writeCell c p) a + ind (s.cells c = some a) = cellsU N s a + u p a := by
  have := sumN_set s.cells (fun o => ind (o = some a)) c (some p) hc
  rw [ind_some] at this; exact this

theorem pot_writeCell (K : Nat) (s : Shared) (c p a : Nat) : pot K (s.writeCell c p) a = pot K s a :=
  pot_frame rfl (fun _ => ⟨rfl, rfl⟩)

theorem GD.ofGuard_ok (K : Nat) (g : Guard) (h : ∀ n idx, g.debt = some (n, idx) → n < K ∧ idx < slotCnt) :
    (GD.ofGuard g).ok K := by
  unfold GD.ofGuard
  cases hd : g.debt with
  | some nd => exact h nd.1 nd.2 (by rw [hd])
  | none => dsimp only; split <;> trivial

/-- units of a `compare_and_swap` (strategy level) in progress, for the new value `new` -/
def uCP (new : Nat) : CP → Nat → Nat
  | .load ld => fun a => uLP ld a + u new a
  | .dropNew old => fun a => uG old a + u new a
  | .cx old => fun a => uG old a + u new a
  | .pay old pp => fun a => 2 * uG old a + uPP old.ptr pp a
  | .decOld old => fun a => 2 * uG old a
  | .dropOld gd => fun a => uGD gd a + u new a
  | .done old => uG old

def Guard.ok (K : Nat) (g : Guard) : Prop := ∀ n idx, g.debt = some (n, idx) → n < K ∧ idx < slotCnt

def CP.ok (K cur : Nat) : CP → Prop
  | .load ld => ld.ok K
  | .dropNew old => old.ok K
  | .cx old => old.ptr = cur ∧ old.ok K
  | .pay old pp => pp.ok K ∧ old.ok K
  | .decOld old => old.ok K
  | .dropOld gd => gd.ok K
  | .done old => old.ok K

theorem uCP_afterLoad (cur new : Nat) (ld : LP) (a : Nat) (ha : a ≠ 0) :
    uCP new (CP.afterLoad cur new ld) a = uLP ld a + u new a := by
  cases ld <;> simp only [CP.afterLoad] <;> (repeat' split) <;> first | rfl | skip
  rename_i p d _ h0; subst h0
  show u p a = u p a + u 0 a
  rw [u_zero a ha]; rfl

theorem uCP_afterPay (new : Nat) (old : Guard) (pp : PP) (a : Nat) (ha : a ≠ 0) :
    uCP new (CP.afterPay old pp) a = 2 * uG old a + uPP old.ptr pp a := by
  cases pp <;> simp only [CP.afterPay] <;> (try split) <;> first | rfl | skip
  rename_i h0
  show u old.ptr a = 2 * u old.ptr a + 0
  rw [h0, u_zero a ha]

theorem uCP_afterDropOld (new : Nat) (gd : GD) (a : Nat) : uCP new (CP.afterDropOld gd) a = uGD gd a + u new a := by
  cases gd <;> rfl

/-- **Every step of `compare_and_swap` conserves**: the exchange moves `new` into the container and
    the container's reference to `current` to the caller, who releases it after the walk; a failed
    exchange gives the guard back and tries again; a rejected `new` is released. -/
theorem stepCP_cons (K N : Nat) (cfg : Cfg) (c cur new : Nat) (s : Shared) (l : Locals) (b : Bool) (cp : CP)
    (hk : cp.ok K cur) (hn : l.node.getD 0 < K) (hc : c < N) (hb : Beyond s) (hK : s.nNodes ≤ K)
    (hnh : ∀ old h r t m, cp = .pay old (.h7 h r t m) → (s.nodes h.who).control ≠ h.ctl)
    (hf : (stepCP cfg c cur new s l b cp).1.fault = none) :
    ConsC K N s (stepCP cfg c cur new s l b cp).1 (uCP new cp) (uCP new (stepCP cfg c cur new s l b cp).2.2.1) := by
  intro a ha
  cases cp with
  | load ld =>
    rw [stepCP_load] at hf ⊢
    have := ConsC.of_cons (N := N) (stepLP_cons K cfg c s l b ld hk hn hb hf) (stepLP_frame cfg c s l b ld).1 a ha
    rw [uCP_afterLoad _ _ _ a ha]; simp only [uCP]; omega
  | dropNew old =>
    have := pot_dec K s new a hf
    simp only [stepCP, uCP, cellsU, decObj_cells]; omega
  | cx old =>
    obtain ⟨hptr, hok⟩ := hk
    simp only [stepCP] at hf ⊢
    split
    · rename_i q hq
      split
      · rename_i hcond
        have hqc : q = cur := by simp at hcond; exact hcond.2
        have h1 := cellsU_write N s c new a hc
        rw [hq, ind_some] at h1
        simp only [uCP, uG, uPP, pot_writeCell]
        rw [hptr, ← hqc]; omega
      · have := uGD_ofGuard old a ha
        split
        · rename_i hgd; rw [hgd] at this
          simp only [uCP, uLP, uGD] at this ⊢; omega
        · simp only [uCP]; omega
    · rename_i hq; simp only [hq] at hf; exact absurd hf (setFault_ne_none _ _)
  | pay old pp =>
    rw [stepCP_pay] at hf ⊢
    have := ConsC.of_cons (N := N)
      (stepPP_cons K cfg old.ptr c s l b pp hk.1 hn hb hK (fun h r t m e => hnh old h r t m (by rw [e])) hf)
      (stepPP_frame cfg old.ptr c s l b pp).1 a ha
    rw [uCP_afterPay _ _ _ a ha]; simp only [uCP]; omega
  | decOld old =>
    have := pot_dec K s old.ptr a hf
    simp only [stepCP, uCP, uG, cellsU, decObj_cells]; omega
  | dropOld gd =>
    rw [stepCP_dropOld] at hf ⊢
    have := ConsC.of_cons (N := N) (stepGD_cons K s gd hk hf) (stepGD_frame s gd).1 a ha
    rw [uCP_afterDropOld]; simp only [uCP]; omega
  | done old => simp [stepCP, uCP]

def uRP : RP → Nat → Nat
  | .load ld => uLP ld
  | .attempt cur => uG cur
  | .cas cur a cp => fun x => uG cur x + uCP a cp x
  | .intoPrev cur prev gi => fun x => uG cur x + uGI prev.ptr gi x
  | .dropCur res gd => fun x => u res x + uGD gd x
  | .dropCurLoop prev gd => fun x => uG prev x + uGD gd x
  | .done r => u r

def RP.ok (K : Nat) : RP → Prop
  | .load ld => ld.ok K
  | .attempt cur => cur.ok K
  | .cas cur _ cp => cur.ok K ∧ cp.ok K cur.ptr
  | .intoPrev cur prev gi => cur.ok K ∧ gi.ok K prev.ptr
  | .dropCur _ gd => gd.ok K
  | .dropCurLoop prev gd => prev.ok K ∧ gd.ok K
  | .done _ => True

/-- a fresh value starts with exactly one reference (its address was not in use) -/
theorem pot_alloc (K : Nat) (s : Shared) (val a : Nat) (hdead : (s.heap (alloc s val).2.1).cnt = 0) :
    pot K (alloc s val).1 a = pot K s a + u (alloc s val).2.1 a := by
  simp only [alloc] at hdead ⊢
  simp only [pot, u]
  by_cases hp : lowestFree s.heap 4096 = a
  · subst hp; simp [upd, hdead]; omega
  · have : a ≠ lowestFree s.heap 4096 := fun h => hp h.symm
    simp [upd, this, hp]

theorem alloc_cells (s : Shared) (val : Nat) : (alloc s val).1.cells = s.cells := rfl
theorem alloc_fault (s : Shared) (val : Nat) : (alloc s val).1.fault = s.fault := rfl

theorem uRP_afterLoad (ld : LP) (a : Nat) : uRP (RP.afterLoad ld) a = uLP ld a := by cases ld <;> rfl

/-- `cur` is given back once the exchange has returned `prev`: no unit if there is nothing to do -/
theorem uRP_giveBack (cur : Guard) (rp : RP) (X : Nat → Nat) (a : Nat) (ha : a ≠ 0) (h0 : uRP rp a = X a)
    (mk : GD → RP) (h1 : uRP (mk (GD.ofGuard cur)) a = X a + uGD (GD.ofGuard cur) a) :
    uRP (if GD.ofGuard cur = .done then rp else mk (GD.ofGuard cur)) a = uG cur a + X a := by
  have := uGD_ofGuard cur a ha
  split
  · rename_i hg; rw [hg] at this; simp only [uGD] at this; omega
  · omega

theorem uRP_afterIntoPrev (cur prev : Guard) (gi : GI) (a : Nat) (ha : a ≠ 0) :
    uRP (RP.afterIntoPrev cur prev gi) a = uG cur a + uGI prev.ptr gi a := by
  cases gi <;> first | rfl | exact uRP_giveBack cur _ (u prev.ptr) a ha rfl (.dropCur prev.ptr) rfl

theorem uRP_afterCas (cur : Guard) (x : Nat) (cp : CP) (a : Nat) (ha : a ≠ 0) :
    uRP (RP.afterCas cur x cp) a = uG cur a + uCP x cp a := by
  cases cp <;> first | rfl | skip
  rename_i prev
  simp only [RP.afterCas]
  split
  · split
    · exact uRP_giveBack cur _ (u prev.ptr) a ha rfl (.dropCur prev.ptr) rfl
    · rename_i hgi
      have := uGI_ofGuard prev a ha hgi
      simp only [uRP, uCP]; omega
  · exact uRP_giveBack cur _ (uG prev) a ha rfl (.dropCurLoop prev) rfl

theorem uRP_afterDropCur (res : Nat) (gd : GD) (a : Nat) : uRP (RP.afterDropCur res gd) a = u res a + uGD gd a := by
  cases gd <;> rfl

theorem uRP_afterDropCurLoop (prev : Guard) (gd : GD) (a : Nat) :
    uRP (RP.afterDropCurLoop prev gd) a = uG prev a + uGD gd a := by cases gd <;> rfl

/-- **Every step of `rcu` conserves**: each attempt's fresh result is either installed by the
    exchange or released by the failed `compare_and_swap`; the guards of the previous attempt and
    of the value replaced are given back or promoted. -/
theorem stepRP_cons (K N : Nat) (cfg : Cfg) (c : Nat) (s : Shared) (l : Locals) (b : Bool) (tries : Nat) (rp : RP)
    (hk : rp.ok K) (hn : l.node.getD 0 < K) (hc : c < N) (hb : Beyond s) (hK : s.nNodes ≤ K)
    (hnh : ∀ cur a old h r t m, rp = .cas cur a (.pay old (.h7 h r t m)) → (s.nodes h.who).control ≠ h.ctl)
    (hroom : ∀ cur, rp = .attempt cur → ∀ v, (s.heap (alloc s v).2.1).cnt = 0)
    (hf : (stepRP cfg c s l b tries rp).1.fault = none) :
    ConsC K N s (stepRP cfg c s l b tries rp).1 (uRP rp) (uRP (stepRP cfg c s l b tries rp).2.2.1) := by
  intro a ha
  cases rp with
  | load ld =>
    rw [stepRP_load] at hf ⊢
    have := ConsC.of_cons (N := N) (stepLP_cons K cfg c s l b ld hk hn hb hf) (stepLP_frame cfg c s l b ld).1 a ha
    rw [uRP_afterLoad]; simp only [uRP]; omega
  | attempt cur =>
    by_cases hd : cur.ptr ≠ 0 ∧ (!(s.heap cur.ptr).live) = true
    · simp only [stepRP, hd, ↓reduceIte] at hf
      have : ((s.setFault (Fault.uaf "deref" cur.ptr)).fault = none) := by
        simpa [alloc, hd.1] using hf
      exact absurd this (setFault_ne_none _ _)
    · have h1 := pot_alloc K s ((if cur.ptr = 0 then 0 else (s.heap cur.ptr).val) + 1) a (hroom cur rfl _)
      have h2 := alloc_cells s ((if cur.ptr = 0 then 0 else (s.heap cur.ptr).val) + 1)
      simp only [stepRP, hd, ↓reduceIte]
      generalize alloc s ((if cur.ptr = 0 then 0 else (s.heap cur.ptr).val) + 1) = r at h1 h2 ⊢
      obtain ⟨s', a', evs⟩ := r
      simp only [uRP, uCP, uLP, cellsU] at h1 h2 ⊢
      rw [h2]; omega
  | cas cur x cp =>
    rw [stepRP_cas] at hf ⊢
    have := stepCP_cons K N cfg c cur.ptr x s l b cp hk.2 hn hc hb hK
      (fun old h r t m e => hnh cur x old h r t m (by rw [e])) hf a ha
    rw [uRP_afterCas _ _ _ a ha]; simp only [uRP]; omega
  | intoPrev cur prev gi =>
    rw [stepRP_intoPrev] at hf ⊢
    have := ConsC.of_cons (N := N) (stepGI_cons K prev.ptr s gi hk.2 hf) (stepGI_frame s gi).1 a ha
    rw [uRP_afterIntoPrev _ _ _ a ha]; simp only [uRP]; omega
  | dropCur res gd =>
    rw [stepRP_dropCur] at hf ⊢
    have := ConsC.of_cons (N := N) (stepGD_cons K s gd hk hf) (stepGD_frame s gd).1 a ha
    rw [uRP_afterDropCur]; simp only [uRP]; omega
  | dropCurLoop prev gd =>
    rw [stepRP_dropCurLoop] at hf ⊢
    have := ConsC.of_cons (N := N) (stepGD_cons K s gd hk.2 hf) (stepGD_frame s gd).1 a ha
    rw [uRP_afterDropCurLoop]; simp only [uRP]; omega
  | done r => simp [stepRP, uRP]

end M
