import ArcSwapModel.Inv.HazD5

/-!
# Reference counts are touched only while the object is alive

`touch`: the object whose count the next step of an operation increments or decrements.  A step with
`touch = some a` *is* that count operation on `a` (`stepLP_touch` … `OpSt.core_touch`), so it raises no
use-after-free or double-free fault if `a` is alive and counted (`microStep_touch_fault`).  That it is:
the operation accounts for a reference of its own beyond its claims, or promotes a confirmed borrowed
guard (hazard clause), or is the destroyer of the container that still holds the value
(`Inv/Touch2.lean`, `Inv/Touch3.lean`); for the increment of the fallback path's candidate
(`LP.fokInc`) the protection is the helping protocol (`Inv/HazH4.lean`).
-/

namespace M
open Consts

def LP.touch : LP → Option Nat
  | .a4dec p => some p
  | .fokInc c => some c
  | .fokDec c => some c
  | .frDec c _ => some c
  | _ => none
def GD.touch : GD → Option Nat
  | .dec p => some p
  | _ => none
def GI.touch : GI → Option Nat
  | .inc p _ _ => some p
  | .dec p => some p
  | _ => none
def PP.touch (p : Nat) : PP → Option Nat
  | .inc => some p
  | .slotInc _ _ => some p
  | .dec => some p
  | .hdrop _ r => some r
  | .hload _ ld => ld.touch
  | .hinto _ _ gi => gi.touch
  | _ => none
def CP.touch (new : Nat) : CP → Option Nat
  | .dropNew _ => some new
  | .decOld old => some old.ptr
  | .load ld => ld.touch
  | .pay old pp => pp.touch old.ptr
  | .dropOld gd => gd.touch
  | _ => none
def RP.touch : RP → Option Nat
  | .load ld => ld.touch
  | .cas _ a cp => cp.touch a
  | .intoPrev _ _ gi => gi.touch
  | .dropCur _ gd => gd.touch
  | .dropCurLoop _ gd => gd.touch
  | _ => none
/-- the object whose reference count the next step of the operation changes -/
def OpSt.touch : OpSt → Option Nat
  | .load _ _ ld | .loadFull _ _ ld => ld.touch
  | .loadFullInto _ _ _ gi | .ginto _ _ gi => gi.touch
  | .cloneh _ _ a => some a
  | .droph a => some a
  | .dropg gd => gd.touch
  | .swapPay _ _ old _ pp => pp.touch old
  | .swapDrop _ old => some old
  | .cas _ _ _ _ new _ cp => cp.touch new
  | .rcu _ _ _ rp => rp.touch
  | .cinto _ _ p pp | .dropc _ p pp => pp.touch p
  | .dropcDec _ p => some p
  | _ => none

/-! ## A touching step is the count operation, and raises no fault if the object is alive and counted -/

/-- `s'` is `s` after one increment or one decrement of the count of `a` -/
def CountOp (s : Shared) (a : Nat) (s' : Shared) : Prop := s' = (incObj s a).1 ∨ s' = (decObj s a).1

theorem CountOp.no_fault {s s' : Shared} {a : Nat} (h : CountOp s a s') (hl : (s.heap a).live = true)
    (hc : 1 ≤ (s.heap a).cnt) (hf : s.fault = none) : s'.fault = none := by
  rcases h with e | e <;> rw [e]
  · exact incObj_no_fault s a hl hf
  · exact decObj_no_fault s a hl hc hf

theorem stepLP_touch (cfg : Cfg) (c : Nat) (s : Shared) (l : Locals) (b : Bool) (lp : LP) (a : Nat)
    (h : lp.touch = some a) : CountOp s a (stepLP cfg c s l b lp).1 := by
  cases lp with
  | fokInc => simp only [LP.touch, Option.some.injEq] at h; subst h; exact .inl rfl
  | a4dec | fokDec | frDec => simp only [LP.touch, Option.some.injEq] at h; subst h; exact .inr rfl
  | _ => cases h

theorem stepGD_touch (s : Shared) (gd : GD) (a : Nat) (h : gd.touch = some a) : CountOp s a (stepGD s gd).1 := by
  cases gd with
  | dec => simp only [GD.touch, Option.some.injEq] at h; subst h; exact .inr rfl
  | _ => cases h

theorem stepGI_touch (s : Shared) (gi : GI) (a : Nat) (h : gi.touch = some a) : CountOp s a (stepGI s gi).1 := by
  cases gi with
  | inc => simp only [GI.touch, Option.some.injEq] at h; subst h; exact .inl rfl
  | dec => simp only [GI.touch, Option.some.injEq] at h; subst h; exact .inr rfl
  | _ => cases h

theorem stepPP_touch (cfg : Cfg) (p c : Nat) (s : Shared) (l : Locals) (b : Bool) (pp : PP) (a : Nat)
    (h : pp.touch p = some a) : CountOp s a (stepPP cfg p c s l b pp).1 := by
  cases pp with
  | hload x ld => rw [stepPP_hload]; exact stepLP_touch cfg c s l b ld a h
  | hinto x r gi => rw [stepPP_hinto]; exact stepGI_touch s gi a h
  | inc | slotInc => simp only [PP.touch, Option.some.injEq] at h; subst h; exact .inl rfl
  | dec | hdrop => simp only [PP.touch, Option.some.injEq] at h; subst h; exact .inr rfl
  | _ => cases h

theorem stepCP_touch (cfg : Cfg) (c cur new : Nat) (s : Shared) (l : Locals) (b : Bool) (cp : CP) (a : Nat)
    (h : cp.touch new = some a) : CountOp s a (stepCP cfg c cur new s l b cp).1 := by
  cases cp with
  | load ld => rw [stepCP_load]; exact stepLP_touch cfg c s l b ld a h
  | pay old pp => rw [stepCP_pay]; exact stepPP_touch cfg old.ptr c s l b pp a h
  | dropOld gd => rw [stepCP_dropOld]; exact stepGD_touch s gd a h
  | dropNew | decOld => simp only [CP.touch, Option.some.injEq] at h; subst h; exact .inr rfl
  | _ => cases h

theorem stepRP_touch (cfg : Cfg) (c : Nat) (s : Shared) (l : Locals) (b : Bool) (tries : Nat) (rp : RP) (a : Nat)
    (h : rp.touch = some a) : CountOp s a (stepRP cfg c s l b tries rp).1 := by
  cases rp with
  | load ld => rw [stepRP_load]; exact stepLP_touch cfg c s l b ld a h
  | cas cur x cp => rw [stepRP_cas]; exact stepCP_touch cfg c cur.ptr x s l b cp a h
  | intoPrev cur prev gi => rw [stepRP_intoPrev]; exact stepGI_touch s gi a h
  | dropCur res gd => rw [stepRP_dropCur]; exact stepGD_touch s gd a h
  | dropCurLoop prev gd => rw [stepRP_dropCurLoop]; exact stepGD_touch s gd a h
  | _ => cases h

theorem OpSt.core_touch (cfg : Cfg) (s : Shared) (l : Locals) (b : Bool) (op : OpSt) (a : Nat)
    (h : op.touch = some a) : CountOp s a (op.core cfg s l b) := by
  cases op with
  | load c g ld | loadFull c x ld => exact stepLP_touch cfg c s l b ld a h
  | loadFullInto c x r gi | ginto x p gi => exact stepGI_touch s gi a h
  | dropg gd => exact stepGD_touch s gd a h
  | swapPay c out old isStore pp => exact stepPP_touch cfg old c s l b pp a h
  | cinto c x p pp | dropc c p pp => exact stepPP_touch cfg p c s l b pp a h
  | cas c cur keep curPtr new g cp => exact stepCP_touch cfg c curPtr new s l b cp a h
  | rcu c out tries rp => exact stepRP_touch cfg c s l b tries rp a h
  | cloneh => simp only [OpSt.touch, Option.some.injEq] at h; subst h; exact .inl rfl
  | droph | swapDrop | dropcDec => simp only [OpSt.touch, Option.some.injEq] at h; subst h; exact .inr rfl
  | _ => cases h

theorem microStep_touch_fault (st : State) (t : Nat) (b : Bool) (a : Nat)
    (h : (st.th t).op.touch = some a) (hl : (st.sh.heap a).live = true) (hc : 1 ≤ (st.sh.heap a).cnt)
    (hf : st.sh.fault = none) : (microStep st t b).1.sh.fault = none := by
  have hni : (st.th t).op ≠ .idle := fun e => by rw [e] at h; cases h
  rw [(microStep_core st t b hni).fault]
  exact (OpSt.core_touch _ _ _ b _ a h).no_fault hl hc hf

end M
