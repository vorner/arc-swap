import ArcSwapModel.Inv.Touch2

/-!
# The object a step touches is alive (all count operations but the fallback's increment)
-/

namespace M
open Consts

/-- **the object whose count a step touches is alive and counted** — for every step of every
    operation that increments or decrements a reference count, except the increment of the
    fallback path's candidate: along every execution that satisfies the ledger's assumptions and
    has raised no fault -/
theorem touched_object_alive (K N T : Nat) (hK : 0 < K) (cfg : Cfg) (progs : Nat → List (String × Op))
    (sched : List (Nat × Bool)) (he : EnvRun0 K N T (State.initial cfg progs) sched)
    (hf : (run (State.initial cfg progs) sched).sh.fault = none) (a : Nat) (ha : a ≠ 0)
    (t : Nat) (ht : t < T)
    (htouch : ((run (State.initial cfg progs) sched).th t).op.touch = some a)
    (hnh : ((run (State.initial cfg progs) sched).th t).op.lp? ≠ some (.fokInc a)) :
    1 ≤ ((run (State.initial cfg progs) sched).sh.heap a).cnt ∧
      ((run (State.initial cfg progs) sched).sh.heap a).live = true := by
  have hwf := Wf.run0 hK (Wf.initial K cfg progs) sched he
  obtain ⟨L, hL⟩ := (HazAllD.initial N T cfg progs).run sched (TameRun2.of_env he)
  have of_cell : ∀ c, c < N → (run (State.initial cfg progs) sched).sh.cells c = some a →
      1 ≤ ((run (State.initial cfg progs) sched).sh.heap a).cnt ∧
        ((run (State.initial cfg progs) sched).sh.heap a).live = true := by
    intro c hc hcell
    have hcnt := stored_value_counted K N T hK cfg progs sched he hf a ha c hc hcell
    exact ⟨hcnt, HeapOk.reachable ⟨cfg, progs, sched, rfl⟩ a hcnt⟩
  rcases OpSt.touch_cov K _ ((run (State.initial cfg progs) sched).th t).loc a (hwf.thL t) htouch with
    hcov | ⟨c, hcw⟩ | ⟨c, hd⟩
  · rcases hcov with h1 | h1 | ⟨h1, n, i, h2, h3, h4⟩
    · exact thread_held_alive K N T hK cfg progs sched he hf a ha t ht (Or.inl h1)
    · exact absurd h1 hnh
    · refine thread_held_alive K N T hK cfg progs sched he hf a ha t ht (Or.inr ⟨n, i, h2, h3, h4, ?_⟩)
      intro _ hu; exfalso; rw [h1] at hu; rcases hu with hu | hu <;> cases hu
  · obtain ⟨hcons, hcell⟩ := OpSt.consWalk_cons hcw
    exact of_cell c (hL.busy.consN t c hcons hcell) (hL.busy.ccell t c a hcw)
  · have hcons : ((run (State.initial cfg progs) sched).th t).op.cons = true := by rw [hd]; rfl
    have hcell : ((run (State.initial cfg progs) sched).th t).op.cell? = some c := by rw [hd]; rfl
    exact of_cell c (hL.busy.consN t c hcons hcell) (hL.busy.cdec t c a hd)

end M
