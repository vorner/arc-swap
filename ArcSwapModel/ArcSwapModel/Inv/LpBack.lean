import ArcSwapModel.Inv.AssertFree2

/-!
# Where the innermost load of a thread comes from

Backward companion of `microStep_lp`: the load in progress after a step is the load in progress
before, one step on — or a load that has just started.
-/

namespace M
open Consts

theorem stepPP_lp_back (cfg : Cfg) (p c : Nat) (s : Shared) (l : Locals) (b : Bool) (pp : PP) (lp' : LP)
    (h : (stepPP cfg p c s l b pp).2.2.1.lp? = some lp') :
    (∃ lp, pp.lp? = some lp ∧ lp' = (stepLP cfg c s l b lp).2.2.1) ∨ lp' = .start := by
  cases pp with
  | hload x ld => rw [stepPP_hload] at h; exact .inl ⟨ld, rfl, PP.afterLoad_lp_eq h⟩
  | _ =>
    -- `help` starts a load at `h2` and `hres`; no other state leads into one
    simp only [stepPP, PP.dispatch, PP.nextSlot] at h <;> (repeat' split at h) <;> cases h <;> exact .inr rfl

theorem stepCP_lp_back (cfg : Cfg) (c cur new : Nat) (s : Shared) (l : Locals) (b : Bool) (cp : CP) (lp' : LP)
    (h : (stepCP cfg c cur new s l b cp).2.2.1.lp? = some lp') :
    (∃ lp, cp.lp? = some lp ∧ lp' = (stepLP cfg c s l b lp).2.2.1) ∨ lp' = .start := by
  cases cp with
  | load ld => rw [stepCP_load] at h; exact .inl ⟨ld, rfl, CP.afterLoad_lp_eq h⟩
  | pay old pp => rw [stepCP_pay, CP.afterPay_lp] at h; exact stepPP_lp_back cfg old.ptr c s l b pp lp' h
  | _ =>
    -- a failed exchange loads again
    simp only [stepCP] at h <;> (repeat' split at h) <;> cases h <;> exact .inr rfl

theorem stepRP_lp_back (cfg : Cfg) (c : Nat) (s : Shared) (l : Locals) (b : Bool) (tries : Nat) (rp : RP) (lp' : LP)
    (h : (stepRP cfg c s l b tries rp).2.2.1.lp? = some lp') :
    (∃ lp, rp.lp? = some lp ∧ lp' = (stepLP cfg c s l b lp).2.2.1) ∨ lp' = .start := by
  cases rp with
  | load ld => rw [stepRP_load] at h; exact .inl ⟨ld, rfl, RP.afterLoad_lp_eq h⟩
  | cas cur x cp => rw [stepRP_cas, RP.afterCas_lp] at h; exact stepCP_lp_back cfg c cur.ptr x s l b cp lp' h
  | _ =>
    -- every attempt begins with the load of `compare_and_swap`
    simp only [stepRP] at h <;> (repeat' split at h) <;> cases h <;> exact .inr rfl

theorem OpSt.fresh.lp {op : OpSt} (hfr : op.fresh) {lp' : LP} (h : op.lp? = some lp') : lp' = .start := by
  cases op with
  | load c g ld | loadFull c g ld => cases hfr; cases h; rfl
  | cas c cur keep curPtr new g cp => cases hfr; cases h; rfl
  | rcu c out tries rp => cases hfr; cases h; rfl
  | cinto c x p pp | dropc c p pp => cases hfr; cases h
  | _ => first | exact hfr.elim | cases h

theorem OpSt.next_lp_back (cfg : Cfg) (s : Shared) (l : Locals) (b : Bool) (op : OpSt) (lp' : LP)
    (h : (op.next cfg s l b).1.lp? = some lp') :
    (∃ lp c, op.lp? = some lp ∧ op.cell? = some c ∧ lp' = (stepLP cfg c s l b lp).2.2.1) ∨ lp' = .start := by
  cases op with
  | load c g ld | loadFull c g ld =>
    refine .inl ⟨ld, c, rfl, rfl, ?_⟩
    simp only [OpSt.next] at h
    generalize (stepLP cfg c s l b ld).2.2.1 = x at h ⊢
    cases x <;> first | exact (Option.some.inj h).symm | (dsimp only at h; (try split at h) <;> cases h)
  | swapPay c out p isStore pp | cinto c x p pp | dropc c p pp =>
    refine (stepPP_lp_back cfg p c s l b pp lp' ?_).imp_left fun ⟨lp, h1, h2⟩ => ⟨lp, c, h1, rfl, h2⟩
    simp only [OpSt.next] at h
    generalize (stepPP cfg p c s l b pp).2.2.1 = x at h ⊢
    cases x <;> first | exact h | (dsimp only at h; (repeat' split at h) <;> cases h)
  | cas c cur keep curPtr new g cp =>
    have e : (OpSt.next cfg s l b (.cas c cur keep curPtr new g cp)).1.lp? =
        (stepCP cfg c curPtr new s l b cp).2.2.1.lp? := by
      simp only [OpSt.next]; generalize (stepCP cfg c curPtr new s l b cp).2.2.1 = x; cases x <;> rfl
    exact (stepCP_lp_back cfg c curPtr new s l b cp lp' (e ▸ h)).imp_left fun ⟨lp, h1, h2⟩ => ⟨lp, c, h1, rfl, h2⟩
  | rcu c out tries rp =>
    have e : (OpSt.next cfg s l b (.rcu c out tries rp)).1.lp? = (stepRP cfg c s l b tries rp).2.2.1.lp? := by
      simp only [OpSt.next]; generalize (stepRP cfg c s l b tries rp).2.2.1 = x; cases x <;> rfl
    exact (stepRP_lp_back cfg c s l b tries rp lp' (e ▸ h)).imp_left fun ⟨lp, h1, h2⟩ => ⟨lp, c, h1, rfl, h2⟩
  | _ => simp only [OpSt.next] at h <;> (repeat' split at h) <;> cases h

/-- **where the load in progress comes from**: it is the load in progress before, one step on (with
    the operation's container), or a load that has just started -/
theorem microStep_lp_back (st : State) (t : Nat) (b : Bool) (lp' : LP)
    (h : ((microStep st t b).1.th t).op.lp? = some lp') :
    (∃ lp c, (st.th t).op.lp? = some lp ∧ (st.th t).op.cell? = some c ∧
        lp' = (stepLP st.cfg c st.sh (st.th t).loc b lp).2.2.1) ∨ lp' = .start := by
  by_cases hop : (st.th t).op = .idle
  · cases hp : (st.th t).prog with
    | nil => simp only [microStep, hop, hp, upd_same] at h; split at h <;> cases h
    | cons x rest => rw [microStep_idle_cons st t b hop hp] at h; exact .inr ((beginOp_fresh _ t _).lp h)
  · rw [(microStep_next st t b hop).1] at h
    exact OpSt.next_lp_back _ _ _ _ _ lp' h

/-- the receiving end of a hand-over -/
def LP.isFr : LP → Bool
  | .fr1 _ _ | .fr2 _ _ _ | .frPay _ _ | .frDec _ _ => true
  | _ => false

theorem stepLP_fr (cfg : Cfg) (c : Nat) (s : Shared) (l : Locals) (b : Bool) (lp : LP)
    (h : (stepLP cfg c s l b lp).2.2.1.isFr = true) :
    lp.isFr = true ∨ ∃ j, (s.nodes (l.node.getD 0)).control = .env j := by
  cases lp with
  | f5 g cand =>
    right
    simp only [stepLP] at h
    split at h
    · split at h <;> cases h
    · split at h
      · rename_i j hj; exact ⟨j, hj⟩
      · cases h
  | fr1 cand j | fr2 cand j r | frPay cand r | frDec cand r => exact .inl rfl
  | _ => simp only [stepLP] at h <;> (repeat' split at h) <;> cases h

/-- no load is at the receiving end of a hand-over -/
def NoFr (st : State) : Prop := ∀ t lp, (st.th t).op.lp? = some lp → lp.isFr = false

theorem NoFr.step {st : State} (h : NoFr st) (hne : NoEnv st.sh) (t : Nat) (b : Bool) : NoFr (microStep st t b).1 := by
  intro u lp' hlp
  by_cases e : u = t
  · subst e
    rcases microStep_lp_back st u b lp' hlp with ⟨lp, c, h1, _, h2⟩ | h1
    · cases hfr : lp'.isFr with
      | false => rfl
      | true =>
        rw [h2] at hfr
        rcases stepLP_fr st.cfg c st.sh (st.th u).loc b lp hfr with h3 | ⟨j, h3⟩
        · rw [h u lp h1] at h3; cases h3
        · exact absurd h3 (hne _ j)
    · subst h1; rfl
  · rw [microStep_th_other st t b e] at hlp; exact h u lp' hlp

/-- **without a successful hand-over no load is ever at its receiving end**: along every execution
    in which no control word ever holds an envelope (`EnvRun0`), no thread is in the states that
    take a replacement from an envelope — in particular the stuck state "envelope holds NONE" of the
    model is not reached, and every load returns by one of the direct paths -/
theorem noFr_run {K N T : Nat} {st : State} (h : NoFr st) (sched : List (Nat × Bool)) (he : EnvRun0 K N T st sched) :
    NoFr (run st sched) :=
  EnvRun0.invariant (fun _ t b _ h1 h => h.step h1.noEnv t b) sched he h

theorem noFr_of_env (K N T : Nat) (cfg : Cfg) (progs : Nat → List (String × Op)) (sched : List (Nat × Bool))
    (he : EnvRun0 K N T (State.initial cfg progs) sched) : NoFr (run (State.initial cfg progs) sched) :=
  noFr_run (fun t lp h => by simp [State.initial, OpSt.lp?] at h) sched he

end M
