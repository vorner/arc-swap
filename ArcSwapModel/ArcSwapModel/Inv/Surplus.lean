import ArcSwapModel.Inv.Alive2

/-!
# Whoever holds a reference that no borrow slot backs keeps the value alive

`Inv/Alive.lean` gives `count + claims ≥ containers + handles + guards + units in flight`.  A thread
whose operation accounts for more units of a value than it claims slots for has a reference of its
own; so the value has a positive count and is alive (`Inv/Live.lean`), and a count operation on it
raises no fault (`decObj_no_fault`, `incObj_no_fault`).  That is the case at every *release* of an
owned reference and at every increment made on the strength of one.  The increments and reads made on
the strength of a *borrowed* reference (promotion of a guard whose slot still names the value, the
fallback's increment of its candidate, `rcu`'s look through its guard) are the hazard clause, not
covered here.
-/

namespace M
open Consts

/-- **surplus ⇒ counted**: a thread below `T` whose operation holds more units of `a` than it
    claims slots for -/
theorem unit_surplus_counted (K N T : Nat) (hK : 0 < K) (cfg : Cfg) (progs : Nat → List (String × Op))
    (sched : List (Nat × Bool)) (he : EnvRun0 K N T (State.initial cfg progs) sched)
    (hf : (run (State.initial cfg progs) sched).sh.fault = none) (a : Nat) (ha : a ≠ 0)
    (t : Nat) (ht : t < T)
    (hs : (((run (State.initial cfg progs) sched).th t).op.claims a ((run (State.initial cfg progs) sched).th t).loc).length + 1 ≤
      uOp ((run (State.initial cfg progs) sched).th t).op a) :
    1 ≤ ((run (State.initial cfg progs) sched).sh.heap a).cnt :=
  (balanced_of_env hK he hf).counted_of_thread_surplus a ha ht hs

/-- … and alive -/
theorem unit_surplus_live (K N T : Nat) (hK : 0 < K) (cfg : Cfg) (progs : Nat → List (String × Op))
    (sched : List (Nat × Bool)) (he : EnvRun0 K N T (State.initial cfg progs) sched)
    (hf : (run (State.initial cfg progs) sched).sh.fault = none) (a : Nat) (ha : a ≠ 0)
    (t : Nat) (ht : t < T)
    (hs : (((run (State.initial cfg progs) sched).th t).op.claims a ((run (State.initial cfg progs) sched).th t).loc).length + 1 ≤
      uOp ((run (State.initial cfg progs) sched).th t).op a) :
    ((run (State.initial cfg progs) sched).sh.heap a).live = true ∧
      1 ≤ ((run (State.initial cfg progs) sched).sh.heap a).cnt := by
  have hc := unit_surplus_counted K N T hK cfg progs sched he hf a ha t ht hs
  exact ⟨HeapOk.reachable ⟨cfg, progs, sched, rfl⟩ a hc, hc⟩

theorem decObj_no_fault (s : Shared) (a : Nat) (hl : (s.heap a).live = true) (hc : 1 ≤ (s.heap a).cnt)
    (hf : s.fault = none) : (decObj s a).1.fault = none := by
  simp only [decObj, hl, ↓reduceIte]
  have : (s.heap a).cnt ≠ 0 := by omega
  simp only [this, ↓reduceIte]
  split <;> exact hf

theorem incObj_no_fault (s : Shared) (a : Nat) (hl : (s.heap a).live = true) (hf : s.fault = none) :
    (incObj s a).1.fault = none := by
  simp only [incObj, hl, ↓reduceIte]; exact hf

end M
