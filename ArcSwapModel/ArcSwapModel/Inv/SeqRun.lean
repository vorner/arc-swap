import ArcSwapModel.Inv.FaultFree
import ArcSwapModel.Inv.EnvEx

/-!
# Sequential executions need no assumption about hand-overs

A hand-over needs two threads: the writer at the exchange of `help` (`h7`) has no window of its own,
and the control word it exchanges belongs to a thread inside its window.  So along executions of
one thread no control word ever holds an envelope (`NoEnv` is a consequence, not an assumption), and
everything proved for `EnvRun0` holds for every sequential execution that keeps the program
discipline: no fault, the ledger, exact counts at rest.
-/

namespace M
open Consts

/-- `EnvOK0` for thread 0, without the two clauses about envelopes -/
structure SeqOK (K N : Nat) (st : State) (b : Bool) : Prop where
  regs : (st.th 0).op.okR N st.sh
  nodesBelow : (microStep st 0 b).1.sh.nNodes ≤ K
  room : ∀ v, (st.sh.heap (alloc st.sh v).2.1).cnt = 0
  next : ∀ txt o rest, (st.th 0).prog = (txt, o) :: rest → o.below N ∧ (∀ c h, o = .mk c h → st.sh.cells c = none)

/-- executions of thread 0 alone -/
def SeqRun (K N : Nat) : State → List Bool → Prop
  | _, [] => True
  | st, b :: rest => SeqOK K N st b ∧ SeqRun K N (microStep st 0 b).1 rest

def seqSched (bs : List Bool) : List (Nat × Bool) := bs.map (fun b => (0, b))

theorem SeqRun.prefix {K N : Nat} {st : State} {b1 b2 : List Bool} (h : SeqRun K N st (b1 ++ b2)) :
    SeqRun K N st b1 ∧ SeqRun K N (run st (seqSched b1)) b2 := by
  induction b1 generalizing st with
  | nil => exact ⟨trivial, h⟩
  | cons x rest ih =>
    obtain ⟨h1, h2⟩ := h
    obtain ⟨i1, i2⟩ := ih h2
    exact ⟨⟨h1, i1⟩, i2⟩

theorem EnvRun0.append {K N T : Nat} {st : State} {s1 s2 : List (Nat × Bool)} (h1 : EnvRun0 K N T st s1)
    (h2 : EnvRun0 K N T (run st s1) s2) : EnvRun0 K N T st (s1 ++ s2) := by
  induction s1 generalizing st with
  | nil => exact h2
  | cons x rest ih =>
    obtain ⟨t, b⟩ := x
    obtain ⟨ht, hok, hrest⟩ := h1
    exact ⟨ht, hok, ih hrest h2⟩

theorem noEnv_run {K N T : Nat} {st : State} (sched : List (Nat × Bool)) (he : EnvRun0 K N T st sched)
    (h0 : NoEnv st.sh) : NoEnv (run st sched).sh :=
  he.invariant (P := fun st => NoEnv st.sh) (fun _ _ _ _ h _ => h.noEnvAfter) sched h0

/-- a step of the only running thread creates no envelope -/
theorem seq_step_noEnv {st : State} (hr : Reachable st) (hf : st.sh.fault = none) (hib : IdleBeyond 1 st)
    (hne : NoEnv st.sh) (b : Bool) (hf' : (microStep st 0 b).1.sh.fault = none) :
    NoEnv (microStep st 0 b).1.sh := by
  have hctl := CtlInv.reachable hr hf
  have hn := NodeInv.reachable hr
  obtain ⟨hstep, _⟩ := microStep_ctl st 0 b hctl.beyond (hn.th 0) (hctl.hwf 0) hf'
  intro n j hc
  cases hstep with
  | same h1 _ _ => rw [h1 n] at hc; exact hne n j hc
  | opens n0 g _ _ _ _ h5 =>
    rw [h5 n] at hc
    split at hc
    · cases hc
    · exact hne n j hc
  | closes n0 g _ _ _ h4 h5 =>
    by_cases e : n = n0
    · subst e; rw [h4] at hc; cases hc
    · rw [h5 n e] at hc; exact hne n j hc
  | hands who g m h1 h2 _ _ =>
    have hnz : (st.sh.nodes who).control ≠ .idle := by rw [h1]; intro h; cases h
    obtain ⟨t', g', _, hw, _⟩ := hctl.owner who hnz
    by_cases e : t' = 0
    · subst e; rw [h2] at hw; cases hw
    · have : 1 ≤ t' := Nat.pos_of_ne_zero e
      rw [hib t' this] at hw; cases hw

/-- **a sequential execution that keeps the program discipline satisfies the assumptions of the
    ledger**: that no hand-over succeeds is a consequence -/
theorem seqRun_env (K N : Nat) (hK : 0 < K) (cfg : Cfg) (progs : Nat → List (String × Op)) (bs : List Bool)
    (h : SeqRun K N (State.initial cfg progs) bs) : EnvRun0 K N 1 (State.initial cfg progs) (seqSched bs) := by
  revert h
  refine list_snoc_induction (fun bs => SeqRun K N (State.initial cfg progs) bs →
    EnvRun0 K N 1 (State.initial cfg progs) (seqSched bs)) (fun _ => trivial) (fun pre b ih h => ?_) bs
  obtain ⟨h1, h2, _⟩ := SeqRun.prefix h
  have he := ih h1
  have hf := env_run_fault_free K N 1 hK cfg progs _ he
  have hne := noEnv_run _ he (fun _ _ h => nomatch h)
  have hf' := env_step_no_fault K N 1 hK cfg progs _ he hf 0 (by decide) b
    (fun txt o rest hp => (h2.next txt o rest hp).1)
  have hne' := seq_step_noEnv ⟨cfg, progs, _, rfl⟩ hf (idleBeyond_run _ he (fun _ _ => rfl)) hne b hf'
  rw [seqSched, List.map_append]
  exact he.append ⟨by decide, ⟨h2.regs, h2.nodesBelow, hne, hne', h2.room, h2.next⟩, trivial⟩

/-- **no sequential execution that keeps the program discipline raises a fault** — nothing assumed
    about the helping protocol -/
theorem seq_run_fault_free (K N : Nat) (hK : 0 < K) (cfg : Cfg) (progs : Nat → List (String × Op)) (bs : List Bool)
    (h : SeqRun K N (State.initial cfg progs) bs) : (run (State.initial cfg progs) (seqSched bs)).sh.fault = none :=
  env_run_fault_free K N 1 hK cfg progs _ (seqRun_env K N hK cfg progs bs h)

/-- … and the count ledger holds in its end state -/
theorem seq_run_ledger (K N : Nat) (hK : 0 < K) (cfg : Cfg) (progs : Nat → List (String × Op)) (bs : List Bool)
    (h : SeqRun K N (State.initial cfg progs) bs) : Ledger K N 1 (run (State.initial cfg progs) (seqSched bs)) :=
  C02_ledger_final K N 1 hK cfg progs _ (seqRun_env K N hK cfg progs bs h) (seq_run_fault_free K N hK cfg progs bs h)

/-- **between operations the counts are exact**: in the end state of a sequential execution that
    keeps the program discipline, with the thread between two operations (or finished), for every
    value: strong count + debt slots naming it = containers + handles + guards denoting it — a
    borrowed guard is an owner like any other, which is the accounting law of the sequential
    specification (`Spec`, `C14_accounting`) -/
theorem seq_between_ops_counts (K N : Nat) (hK : 0 < K) (cfg : Cfg) (progs : Nat → List (String × Op)) (bs : List Bool)
    (h : SeqRun K N (State.initial cfg progs) bs)
    (hidle : ((run (State.initial cfg progs) (seqSched bs)).th 0).op = .idle ∨
      ((run (State.initial cfg progs) (seqSched bs)).th 0).op = .finished)
    (a : Nat) (ha : a ≠ 0) :
    ((run (State.initial cfg progs) (seqSched bs)).sh.heap a).cnt +
        occ K (run (State.initial cfg progs) (seqSched bs)).sh.nodes a =
      (run (State.initial cfg progs) (seqSched bs)).sh.regs N a := by
  have hl := seq_run_ledger K N hK cfg progs bs h a ha
  have e1 : threadsU 1 (run (State.initial cfg progs) (seqSched bs)) a = 0 := by
    simp only [threadsU, sumN]
    rcases hidle with e | e <;> rw [e] <;> rfl
  simp only [pot] at hl
  omega

/-- along a sequential execution no control word ever holds an envelope -/
theorem seq_run_noEnv (K N : Nat) (hK : 0 < K) (cfg : Cfg) (progs : Nat → List (String × Op)) (bs : List Bool)
    (h : SeqRun K N (State.initial cfg progs) bs) : NoEnv (run (State.initial cfg progs) (seqSched bs)).sh :=
  noEnv_run _ (seqRun_env K N hK cfg progs bs h) (fun _ _ h => nomatch h)

/-! ## An executable check of `SeqRun` -/

def seqOKB (K N : Nat) (st : State) (b : Bool) : Bool :=
  decide ((st.th 0).op.okR N st.sh) && decide ((microStep st 0 b).1.sh.nNodes ≤ K) &&
    decide ((st.sh.heap (lowestFree st.sh.heap 4096)).cnt = 0) && nextB N st 0

def seqRunB (K N : Nat) : State → List Bool → Bool
  | _, [] => true
  | st, b :: rest => seqOKB K N st b && seqRunB K N (microStep st 0 b).1 rest

theorem seqRun_of_B {K N : Nat} {st : State} {bs : List Bool} (h : seqRunB K N st bs = true) : SeqRun K N st bs := by
  induction bs generalizing st with
  | nil => trivial
  | cons b rest ih =>
    simp only [seqRunB, seqOKB, Bool.and_eq_true, decide_eq_true_eq] at h
    obtain ⟨⟨⟨⟨h1, h2⟩, h3⟩, h4⟩, hrest⟩ := h
    exact ⟨⟨h1, h2, fun v => h3, next_of_B h4⟩, ih hrest⟩

/-- one thread: two values, a container, a borrowed guard held across a store, a full load, a
    successful and a failing `compare_and_swap`, `rcu`, a promotion, releases, `into_inner` -/
def seqEx : State := State.initial {} (fun t =>
  if t = 0 then
    [("new h0 5", .new 0 5), ("mk c0 h0", .mk 0 0), ("load c0 g0", .load 0 0), ("new h1 6", .new 1 6),
     ("store c0 h1", .store 0 1), ("loadfull c0 h2", .loadfull 0 2), ("cas c0 h2 h2 g1", .cas 0 (.h 2) 2 1),
     ("rcu c0 h3", .rcu 0 3), ("ginto g0 h1", .ginto 0 1), ("dropg g1", .dropg 1), ("droph h1", .droph 1),
     ("cinto c0 h0", .cinto 0 0), ("droph h0", .droph 0), ("droph h3", .droph 3)]
  else [])

end M
