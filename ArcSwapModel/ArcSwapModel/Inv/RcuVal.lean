import ArcSwapModel.Inv.Ident

/-!
# `rcu` installs the closure's result on top of the very object it gave to the closure

`RcuVal`: while an `rcu` is between evaluating its closure (`|v| v + 1` in the model) and the exchange,
the object it allocated holds the content of the object it loaded, plus one — the loaded object is kept
alive by the guard `cur`, so its address is not reused and its content is what the closure saw.  At the
exchange the container holds that very address: the installed content is the replaced content plus one.
(`Inv/RcuVal2.lean` proves it together with "the allocated address is not null", as `RcuVal2`.)

This file says how an `rcu` gets into that phase (`microStep_rcu_cas`): by the closure's allocation, or
by a step of the `compare_and_swap` it is already in.
-/

namespace M
open Consts

theorem EnvRun0.prefix {K N T : Nat} {st : State} {s1 s2 : List (Nat × Bool)} (h : EnvRun0 K N T st (s1 ++ s2)) :
    EnvRun0 K N T st s1 ∧ EnvRun0 K N T (run st s1) s2 := by
  induction s1 generalizing st with
  | nil => exact ⟨trivial, h⟩
  | cons x rest ih =>
    obtain ⟨t, b⟩ := x
    obtain ⟨ht, h1, h2⟩ := h
    obtain ⟨i1, i2⟩ := ih h2
    exact ⟨⟨ht, h1, i1⟩, i2⟩

/-- Induction over the executions that satisfy the ledger's assumptions and end without a fault, by
    their last step: every prefix is such an execution. -/
theorem EnvRun0.induct_noFault {K N T : Nat} {st0 : State} {P : State → Prop} (h0 : P st0)
    (hs : ∀ pre t b, EnvRun0 K N T st0 pre → (run st0 pre).sh.fault = none → t < T → EnvOK0 K N (run st0 pre) t b →
      (microStep (run st0 pre) t b).1.sh.fault = none → P (run st0 pre) → P (microStep (run st0 pre) t b).1) :
    ∀ sched, EnvRun0 K N T st0 sched → (run st0 sched).sh.fault = none → P (run st0 sched) := by
  refine list_snoc_induction _ (fun _ _ => h0) ?_
  rintro pre ⟨t, b⟩ ih he hf
  obtain ⟨hepre, ht, hok, _⟩ := EnvRun0.prefix he
  rw [run_snoc] at hf ⊢
  have hfpre := microStep_fault_mono _ t b hf
  exact hs pre t b hepre hfpre ht hok hf (ih hepre hfpre)

/-- the content the closure sees (`0` for the null pointer) -/
def valOf (s : Shared) (p : Nat) : Nat := if p = 0 then 0 else (s.heap p).val

/-- the states of `compare_and_swap` before its exchange -/
def CP.preWrite : CP → Bool
  | .load _ | .cx _ | .dropOld _ => true
  | _ => false

theorem valOf_congr {s s' : Shared} {p : Nat} (h : p ≠ 0 → (s'.heap p).val = (s.heap p).val) : valOf s p = valOf s' p := by
  unfold valOf; split
  · rfl
  · exact (h ‹_›).symm

def RcuVal (st : State) : Prop :=
  ∀ t c out tries cur a cp, (st.th t).op = .rcu c out tries (.cas cur a cp) → cp.preWrite = true →
    (st.sh.heap a).val = valOf st.sh cur.ptr + 1

theorem stepRP_attempt (cfg : Cfg) (c : Nat) (s : Shared) (l : Locals) (b : Bool) (tries : Nat) (cur : Guard) :
    (stepRP cfg c s l b tries (.attempt cur)).2.2.1 = .cas cur (alloc s 0).2.1 (.load .start) ∧
      ((stepRP cfg c s l b tries (.attempt cur)).1.heap (alloc s 0).2.1).val = valOf s cur.ptr + 1 ∧
      ∀ x, x ≠ (alloc s 0).2.1 → (stepRP cfg c s l b tries (.attempt cur)).1.heap x = s.heap x := by
  simp only [stepRP, alloc, valOf, apply_ite Shared.heap, setFault_heap, ite_self]
  exact ⟨trivial, by rw [upd_same], fun x hx => upd_other _ _ _ _ hx⟩

theorem RP.afterCas_eq_cas {cur cur' : Guard} {a a' : Nat} {cp cp' : CP} (h : RP.afterCas cur a cp = .cas cur' a' cp') :
    cur' = cur ∧ a' = a ∧ cp' = cp := by
  cases cp with
  | done prev => simp only [RP.afterCas] at h; (repeat' split at h) <;> cases h
  | _ => cases h; exact ⟨rfl, rfl, rfl⟩

theorem stepRP_cas_of (cfg : Cfg) (c : Nat) (s : Shared) (l : Locals) (b : Bool) (tries : Nat) (rp : RP)
    {cur : Guard} {a : Nat} {cp' : CP} (h : (stepRP cfg c s l b tries rp).2.2.1 = .cas cur a cp') :
    (rp = .attempt cur ∧ cp' = .load .start ∧ a = (alloc s 0).2.1) ∨
      ∃ cp, rp = .cas cur a cp ∧ cp' = (stepCP cfg c cur.ptr a s l b cp).2.2.1 ∧
        (stepRP cfg c s l b tries rp).2.2.2.1 = tries := by
  cases rp with
  | attempt cur0 =>
    rw [(stepRP_attempt cfg c s l b tries cur0).1] at h
    cases h; exact .inl ⟨rfl, rfl, rfl⟩
  | cas cur0 a0 cp =>
    rw [stepRP_cas] at h ⊢
    obtain ⟨rfl, rfl, rfl⟩ := RP.afterCas_eq_cas h
    exact .inr ⟨cp, rfl, rfl, rfl⟩
  | load ld => rw [stepRP_load] at h; generalize (stepLP cfg c s l b ld).2.2.1 = x at h; cases x <;> cases h
  | intoPrev cur0 prev gi =>
    rw [stepRP_intoPrev] at h; generalize (stepGI s gi).2.1 = x at h
    cases x <;> simp only [RP.afterIntoPrev] at h <;> (try split at h) <;> cases h
  | dropCur res gd => rw [stepRP_dropCur] at h; generalize (stepGD s gd).2.1 = x at h; cases x <;> cases h
  | dropCurLoop prev gd => rw [stepRP_dropCurLoop] at h; generalize (stepGD s gd).2.1 = x at h; cases x <;> cases h
  | done r => cases h

theorem microStep_rcu_op {st : State} {t : Nat} (b : Bool) {c out tries : Nat} {rp : RP}
    (hop : (st.th t).op = .rcu c out tries rp) {c' out' tries' : Nat} {rp' : RP}
    (h : ((microStep st t b).1.th t).op = .rcu c' out' tries' rp') :
    c' = c ∧ out' = out ∧ (stepRP st.cfg c st.sh (st.th t).loc b tries rp).2.2.1 = rp' ∧
      (stepRP st.cfg c st.sh (st.th t).loc b tries rp).2.2.2.1 = tries' := by
  rw [(microStep_next st t b (by rw [hop]; exact fun e => by cases e)).1, hop] at h
  revert h; simp only [OpSt.next]
  generalize (stepRP st.cfg c st.sh (st.th t).loc b tries rp).2.2.1 = x
  cases x <;> intro h <;> cases h <;> exact ⟨rfl, rfl, rfl, rfl⟩

def OpSt.midRcu : OpSt → Prop
  | .rcu _ _ _ rp => rp ≠ .load .start
  | _ => False

theorem OpSt.next_midRcu (cfg : Cfg) (s : Shared) (l : Locals) (b : Bool) (op : OpSt)
    (h : (op.next cfg s l b).1.midRcu) : ∃ c out tries rp, op = .rcu c out tries rp := by
  cases op with
  | rcu c out tries rp => exact ⟨c, out, tries, rp, rfl⟩
  | _ => exfalso; revert h; simp only [OpSt.next] <;> (repeat' split) <;> exact id

/-- only a step of an `rcu` leaves the thread there: no other operation turns into an `rcu`, and a new
    `rcu` starts with its load -/
theorem microStep_midRcu (st : State) (t : Nat) (b : Bool) (h : ((microStep st t b).1.th t).op.midRcu) :
    ∃ c out tries rp, (st.th t).op = .rcu c out tries rp := by
  by_cases hi : (st.th t).op = .idle
  · exfalso
    cases hp : (st.th t).prog with
    | nil => rw [microStep_idle_nil st t b hi hp] at h; simp only [upd_same] at h; split at h <;> exact h
    | cons x rest =>
      rw [microStep_idle_cons st t b hi hp] at h
      have hf := beginOp_fresh { st with th := upd st.th t { st.th t with prog := rest } } t x.2
      revert h hf
      generalize ((beginOp { st with th := upd st.th t { st.th t with prog := rest } } t x.2).1.th t).op = op
      cases op <;> first | exact fun h _ => h | exact fun h hf => h hf
  · rw [(microStep_next st t b hi).1] at h; exact OpSt.next_midRcu _ _ _ b _ h

theorem microStep_rcu_cas (st : State) (t : Nat) (b : Bool) (c out tries : Nat) (cur : Guard) (a : Nat) (cp' : CP)
    (h : ((microStep st t b).1.th t).op = .rcu c out tries (.cas cur a cp')) :
    (∃ tries0, (st.th t).op = .rcu c out tries0 (.attempt cur) ∧ cp' = .load .start ∧
        a = (alloc st.sh 0).2.1 ∧
        ((microStep st t b).1.sh.heap a).val = valOf st.sh cur.ptr + 1 ∧
        ∀ x, x ≠ a → (microStep st t b).1.sh.heap x = st.sh.heap x) ∨
      (∃ cp, (st.th t).op = .rcu c out tries (.cas cur a cp) ∧
        cp' = (stepCP st.cfg c cur.ptr a st.sh (st.th t).loc b cp).2.2.1 ∧
        (microStep st t b).1.sh.heap = (stepCP st.cfg c cur.ptr a st.sh (st.th t).loc b cp).1.heap) := by
  obtain ⟨c0, out0, tries0, rp, hop⟩ := microStep_midRcu st t b (by rw [h]; exact fun e => by cases e)
  obtain ⟨rfl, rfl, hrp, htr⟩ := microStep_rcu_op b hop h
  have hheap := (microStep_core st t b (by rw [hop]; exact fun e => by cases e)).heap
  rw [hop] at hheap
  rcases stepRP_cas_of _ _ _ _ _ _ _ hrp with ⟨rfl, rfl, rfl⟩ | ⟨cp, rfl, rfl, htr'⟩
  · obtain ⟨_, hv, hoth⟩ := stepRP_attempt st.cfg c st.sh (st.th t).loc b tries0 cur
    exact .inl ⟨tries0, hop, rfl, rfl, by rw [hheap]; exact hv, fun x hx => by rw [hheap]; exact hoth x hx⟩
  · rw [htr'] at htr; subst htr
    exact .inr ⟨cp, hop, rfl, by rw [hheap, OpSt.core, stepRP_cas]⟩

end M
