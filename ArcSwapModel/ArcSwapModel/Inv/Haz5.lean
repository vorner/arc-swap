import ArcSwapModel.Inv.Haz4
import ArcSwapModel.Inv.Surplus

/-!
# Executions that destroy no container; a walker holds a reference

`TameRun`: an execution in which containers are created on fresh cells only and none is destroyed;
`HazAll`: the hazard invariant with the invariants it is proved together with (`HazAll.of_D`,
`Inv/HazD4.lean`).  A thread that is walking the list for a
value took it out of a container and still holds that reference, so the ledger gives the value a
positive count (`walked_value_counted`).
-/

namespace M
open Consts

def TameRun (N : Nat) : State → List (Nat × Bool) → Prop
  | _, [] => True
  | st, (t, b) :: rest => Tame N st t ∧ TameRun N (microStep st t b).1 rest

structure HazAll (N : Nat) (st : State) (L : List Nat) : Prop where
  haz : HazInv N st L
  own : OwnInv st
  node : NodeInv st
  walk : WalkNode st
  cx : ∀ t, (st.th t).op.cxok
  nc : NoCons st
  oc : OpCell N st

theorem HazAll.initial (N : Nat) (cfg : Cfg) (progs : Nat → List (String × Op)) : HazAll N (State.initial cfg progs) [] :=
  ⟨HazInv.initial N cfg progs, OwnInv.initial cfg progs, NodeInv.initial cfg progs,
   (fun t a pp hw => by cases hw), (fun _ => trivial), (fun _ => rfl), (fun t c h => by cases h)⟩

/-! ## A thread walking the list for a value holds a reference to it -/

theorem CP.claims_lt (new : Nat) (cp : CP) (l : Locals) (a : Nat) (pp : PP) (h : cp.walk? = some (a, pp)) :
    (cp.claims a l).length + 1 ≤ uCP new cp a := by
  cases cp with
  | pay old pp0 =>
    simp only [CP.walk?, Option.some.injEq, Prod.mk.injEq] at h
    obtain ⟨rfl, rfl⟩ := h
    have h1 := Guard.claims_len old old.ptr
    have h2 := PP.claims_len old.ptr pp0 l old.ptr
    have h3 : uG old old.ptr = 1 := by simp [uG, u]
    simp only [CP.claims, uCP, List.length_append]; omega
  | _ => cases h

theorem RP.claims_lt (rp : RP) (l : Locals) (a : Nat) (pp : PP) (h : rp.walk? = some (a, pp)) :
    (rp.claims a l).length + 1 ≤ uRP rp a := by
  cases rp with
  | cas cur x cp =>
    have h1 := Guard.claims_len cur a
    have h2 := CP.claims_lt x cp l a pp h
    simp only [RP.claims, uRP, List.length_append]; omega
  | _ => cases h

theorem OpSt.claims_lt (op : OpSt) (l : Locals) (a : Nat) (pp : PP) (h : op.walk? = some (a, pp)) :
    (op.claims a l).length + 1 ≤ uOp op a := by
  cases op with
  | swapPay c out old isStore pp0 =>
    simp only [OpSt.walk?, Option.some.injEq, Prod.mk.injEq] at h
    obtain ⟨rfl, rfl⟩ := h
    have := PP.claims_len old pp0 l old
    simp only [OpSt.claims, uOp, u, ↓reduceIte]; omega
  | cas c cur keep curPtr new g cp =>
    have h1 := CP.claims_lt new cp l a pp h
    have h2 := gClaims_len keep a
    simp only [OpSt.claims, uOp, List.length_append]; omega
  | rcu c out tries rp => exact RP.claims_lt rp l a pp h
  | _ => cases h

/-- the value a thread is walking the list for is counted (the walker holds the reference it took
    out of the container) -/
theorem walked_value_counted (K N T : Nat) (hK : 0 < K) (cfg : Cfg) (progs : Nat → List (String × Op))
    (sched : List (Nat × Bool)) (he : EnvRun0 K N T (State.initial cfg progs) sched)
    (hf : (run (State.initial cfg progs) sched).sh.fault = none) (a : Nat) (ha : a ≠ 0)
    (w : Nat) (pp : PP) (hw : ((run (State.initial cfg progs) sched).th w).op.walk? = some (a, pp)) :
    1 ≤ ((run (State.initial cfg progs) sched).sh.heap a).cnt := by
  have hwT : w < T := Nat.lt_of_not_le (fun hle => by
    rw [idleBeyond_run sched he (fun _ _ => rfl) w hle] at hw; cases hw)
  exact unit_surplus_counted K N T hK cfg progs sched he hf a ha w hwT (OpSt.claims_lt _ _ a pp hw)

/-- the owner between two operations: nothing of its is unconfirmed -/
theorem idle_not_unc {st : State} {o : Nat} (h : (st.th o).op = .idle) (a i : Nat) : ¬ Unc (st.th o).op.lp? a i := by
  rw [h]; intro hu; rcases hu with hu | hu <;> cases hu

end M
