import ArcSwapModel.Inv.ActAddr
import ArcSwapModel.Inv.HazD5

/-!
# The helping slot: where a writer is, relative to a reader's window

`PP.preHelp L n g pp`: a walk at `pp` has not reached node `n` yet, or is inside its `help`
activation on `n` and has either not read the control word yet or has read generation `g` and is on
its way to the hand-over.  While the owner of `n` is inside its window with generation `g` (control
word `gen g`, announced address = the writer's container), one step keeps a walk there — the only
way out is the successful hand-over (`h7`), which leaves an envelope in the control word.
-/

namespace M
open Consts

/-- the walk is in `help` on some node and will still attempt the hand-over for generation `g` -/
def PP.helping (g : Nat) : PP → Prop
  | .res _ | .hDbg0 _ | .hDbg1 _ | .h1 _ => True
  | .h2 h | .hres h | .hload h _ | .hinto h _ _ | .h4 h _ | .h5 h _ _ | .h6 h _ _ _ | .h7 h _ _ _ => h.ctl = .gen g
  | _ => False

def PP.preHelp (L : List Nat) (n g : Nat) (pp : PP) : Prop :=
  pp.beforeList = true ∨ ∃ m j, pp.pos = some (m, j) ∧ (After L m n ∨ (m = n ∧ pp.helping g))

theorem PP.preHelp.prepend {L : List Nat} {n g : Nat} {pp : PP} (h : pp.preHelp L n g) (pre : List Nat) :
    pp.preHelp (pre ++ L) n g :=
  h.imp id (fun ⟨m, j, hp, hq⟩ => ⟨m, j, hp, hq.imp (fun x => x.prepend pre) id⟩)

theorem PP.preHelp_start (L : List Nat) (n g : Nat) : PP.start.preHelp L n g := Or.inl rfl

theorem PP.not_preHelp_done (L : List Nat) (n g : Nat) : ¬ PP.done.preHelp L n g := by
  intro h; rcases h with h | ⟨m, j, h, _⟩ <;> cases h

/-- a walk that is still before (or inside) the help on `n` has every slot of `n` ahead -/
theorem PP.preHelp.ahead {L : List Nat} {n g : Nat} {pp : PP} (h : pp.preHelp L n g) (i : Nat) : pp.ahead L n i := by
  rcases h with h | ⟨m, j, hp, hq⟩
  · exact Or.inl h
  · rcases hq with hq | ⟨rfl, hh⟩
    · exact Or.inr ⟨m, j, hp, Or.inr hq⟩
    · refine Or.inr ⟨m, j, hp, Or.inl ⟨rfl, ?_⟩⟩
      cases pp <;> first | exact hh.elim | (simp only [PP.pos, Option.some.injEq, Prod.mk.injEq] at hp; omega)

/-- **a walk that has not reached node `n` has still not reached it after a step, or has just
    arrived** (`res n`, the first state of the visit) -/
theorem before_step (cfg : Cfg) (p c : Nat) (s : Shared) (l : Locals) (b : Bool) (pp : PP) (L : List Nat)
    (hc : chainFrom (nextOf s) s.head L) (n : Nat) (hn : n ∈ L)
    (hnode : pp.beforeNode = false → l.node.isSome = true)
    (h : pp.beforeList = true ∨ ∃ m j, pp.pos = some (m, j) ∧ After L m n) :
    ((stepPP cfg p c s l b pp).2.2.1.beforeList = true ∨
        ∃ m j, (stepPP cfg p c s l b pp).2.2.1.pos = some (m, j) ∧ After L m n) ∨
      (stepPP cfg p c s l b pp).2.2.1 = .res n := by
  rcases h with h | ⟨m, j, hpos, haft⟩
  · cases pp with
    | start => left; left; simp only [stepPP]; (repeat' split) <;> rfl
    | get ng => left; left; simp only [stepPP]; (repeat' split) <;> rfl
    | inc => left; left; rfl
    | trav =>
      simp only [stepPP]
      cases L with
      | nil => cases hn
      | cons y L2 =>
        cases hh : s.head with
        | none => rw [hh] at hc; exact hc.elim
        | some x =>
          rw [hh] at hc
          obtain ⟨rfl, _, _⟩ := hc
          rcases List.mem_cons.mp hn with rfl | e
          · exact Or.inr rfl
          · exact Or.inl (Or.inr ⟨x, 0, rfl, [], L2, rfl, e⟩)
    | _ => cases h
  · have hbn : pp.beforeNode = false := by cases pp <;> first | rfl | cases hpos
    obtain ⟨m'', hnx', hor⟩ := chain_after_next hc haft
    rcases stepPP_pos_some cfg p c s l b pp m j hpos (hnode hbn) with hs | ⟨rfl, hnone⟩
    · obtain ⟨⟨m', j'⟩, hp'⟩ := Option.isSome_iff_exists.mp hs
      rcases stepPP_pos cfg p c s l b pp m' j' hp' with ⟨j0, h1, _⟩ | ⟨rfl, _, _⟩ | ⟨m0, rfl, hnx, rfl⟩
      · obtain ⟨rfl, rfl⟩ := Prod.mk.inj (Option.some.inj (hpos.symm.trans h1))
        exact Or.inl (Or.inr ⟨m, j', hp', haft⟩)
      · cases hpos
      · -- the walk moves on to the next node
        obtain ⟨rfl, rfl⟩ := Prod.mk.inj (Option.some.inj hpos)
        obtain rfl : m'' = m' := Option.some.inj (hnx'.symm.trans hnx)
        rcases hor with rfl | e
        · right; simp only [stepPP, hnx]
        · exact Or.inl (Or.inr ⟨m'', 0, hp', e⟩)
    · exact nomatch hnx'.symm.trans hnone

theorem preHelp_step (cfg : Cfg) (p c : Nat) (s : Shared) (l : Locals) (b : Bool) (pp : PP) (L : List Nat)
    (hc : chainFrom (nextOf s) s.head L) (n g : Nat) (hn : n ∈ L)
    (hnode : pp.beforeNode = false → l.node.isSome = true)
    (hctl : (s.nodes n).control = .gen g) (haa : (s.nodes n).activeAddr = some c)
    (hne : NoEnv (stepPP cfg p c s l b pp).1)
    (h : pp.preHelp L n g) : (stepPP cfg p c s l b pp).2.2.1.preHelp L n g := by
  have before : (pp.beforeList = true ∨ ∃ m j, pp.pos = some (m, j) ∧ After L m n) →
      (stepPP cfg p c s l b pp).2.2.1.preHelp L n g := fun hb => by
    rcases before_step cfg p c s l b pp L hc n hn hnode hb with (h' | ⟨m, j, hp, ha⟩) | h'
    · exact Or.inl h'
    · exact Or.inr ⟨m, j, hp, Or.inl ha⟩
    · rw [h']; exact Or.inr ⟨n, 0, rfl, Or.inr ⟨rfl, trivial⟩⟩
  rcases h with h | ⟨m, j, hpos, haft | ⟨rfl, hh⟩⟩
  · exact before (Or.inl h)
  · exact before (Or.inr ⟨m, j, hpos, haft⟩)
  · -- inside the help on `n`
    right
    cases pp with
    | res m0 =>
      obtain ⟨n0, hn0⟩ := Option.isSome_iff_exists.mp (hnode rfl)
      obtain ⟨rfl, -⟩ := Prod.mk.inj (Option.some.inj hpos)
      simp only [stepPP, hn0]
      exact ⟨m0, 0, rfl, Or.inr ⟨rfl, trivial⟩⟩
    | hDbg0 x | hDbg1 x | hres x | h4 x _ | h5 x _ _ | h6 x _ _ _ =>
      obtain ⟨rfl, -⟩ := Prod.mk.inj (Option.some.inj hpos)
      exact ⟨x.who, 0, rfl, Or.inr ⟨rfl, hh⟩⟩
    | h1 x =>
      obtain ⟨rfl, -⟩ := Prod.mk.inj (Option.some.inj hpos)
      simp only [stepPP, hctl, PP.dispatch]
      exact ⟨x.who, 0, rfl, Or.inr ⟨rfl, rfl⟩⟩
    | h2 x =>
      obtain ⟨rfl, -⟩ := Prod.mk.inj (Option.some.inj hpos)
      -- the announced address is the walk's container: the writer goes on to help
      have e : ∀ s0 : Shared, s0.nodes = s.nodes → (s0.nodes x.who).activeAddr = some c := fun s0 e0 => by rw [e0]; exact haa
      simp only [stepPP]
      rw [if_pos (by split <;> exact e _ (by first | rfl | simp))]
      split <;> exact ⟨x.who, 0, rfl, Or.inr ⟨rfl, hh⟩⟩
    | hload x ld =>
      obtain ⟨rfl, -⟩ := Prod.mk.inj (Option.some.inj hpos)
      simp only [stepPP]
      (repeat' split) <;> exact ⟨x.who, 0, rfl, Or.inr ⟨rfl, hh⟩⟩
    | hinto x r gi =>
      obtain ⟨rfl, -⟩ := Prod.mk.inj (Option.some.inj hpos)
      simp only [stepPP]
      split <;> exact ⟨x.who, 0, rfl, Or.inr ⟨rfl, hh⟩⟩
    | h7 x r t' m' =>
      -- the exchange finds the generation it expects: it would leave an envelope
      obtain ⟨rfl, -⟩ := Prod.mk.inj (Option.some.inj hpos)
      have : (s.nodes x.who).control = x.ctl := hctl.trans (Eq.symm hh)
      simp only [stepPP, this, ↓reduceIte] at hne
      exact (hne x.who m' (by rw [setNode_nodes_same])).elim
    | _ => exact hh.elim

end M
