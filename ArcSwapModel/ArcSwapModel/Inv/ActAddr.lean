import ArcSwapModel.Inv.LpBack

/-!
# The address a reader has announced stays announced while it is inside its window

`helping::get_debt` stores the address of the storage it is about to read (`active_addr`) before it
publishes its generation.  Nothing else writes that field of a node: it holds the reader's storage
for as long as the reader is inside its window.
-/

namespace M
open Consts

/-- what a step of a thread with locals `l` and innermost load `lp` does to the announced addresses
    of the existing nodes: nothing, except that the thread at `f1` announces its storage in its own
    node -/
def AAStep (s s' : Shared) (l : Locals) (lp : Option LP) : Prop :=
  ∀ m, m < s.nNodes → (s'.nodes m).activeAddr = (s.nodes m).activeAddr ∨ (lp = some .f1 ∧ l.node.getD 0 = m)

theorem AAStep.same {s s' : Shared} {l : Locals} {lp : Option LP}
    (h : ∀ m, m < s.nNodes → (s'.nodes m).activeAddr = (s.nodes m).activeAddr) : AAStep s s' l lp :=
  fun m hm => Or.inl (h m hm)

theorem stepNG_aa (s : Shared) (b : Bool) (ng : NG) {l : Locals} {lp : Option LP} : AAStep s (stepNG s b ng).1 l lp := by
  refine .same fun m hm => ?_
  cases ng with
  | allocCas me hd =>
    have hne : m ≠ s.nNodes := Nat.ne_of_lt hm
    cases me with
    | some k => simp only [stepNG]; split <;> dsimp only <;> exact setNode_proj Node.activeAddr _ _ _ _ (fun _ => rfl)
    | none => simp only [stepNG]; split <;> simp only [setNode_nodes_other _ _ _ _ hne, upd_other _ _ _ _ hne]
  | _ =>
    simp only [stepNG] <;> (repeat' split) <;> (try dsimp only) <;>
      first | rfl | exact setNode_proj Node.activeAddr _ _ _ _ (fun _ => rfl) | rw [setFault_nodes]

theorem stepCD_aa (s : Shared) (cd : CD) {l : Locals} {lp : Option LP} : AAStep s (stepCD s cd).1 l lp :=
  .same fun m _ => stepCD_proj Node.activeAddr s cd (fun _ _ => rfl) (fun _ _ => rfl) m

theorem stepGD_aa (s : Shared) (gd : GD) {l : Locals} {lp : Option LP} : AAStep s (stepGD s gd).1 l lp :=
  .same fun m _ => stepGD_proj Node.activeAddr s gd (fun _ _ => rfl) m

theorem stepGI_aa (s : Shared) (gi : GI) {l : Locals} {lp : Option LP} : AAStep s (stepGI s gi).1 l lp :=
  .same fun m _ => stepGI_proj Node.activeAddr s gi (fun _ _ => rfl) m

theorem stepLP_aa (cfg : Cfg) (c : Nat) (s : Shared) (l : Locals) (b : Bool) (lp : LP) :
    AAStep s (stepLP cfg c s l b lp).1 l (some lp) := by
  cases lp with
  | f1 =>
    intro m _
    by_cases e : l.node.getD 0 = m
    · exact Or.inr ⟨rfl, e⟩
    · exact Or.inl (by simp only [stepLP, setNode_nodes_other _ _ _ _ (Ne.symm e)])
  | get ng => rw [stepLP_get]; exact stepNG_aa s b ng
  | reget ng => rw [stepLP_reget]; exact stepNG_aa s b ng
  | cool cd => rw [stepLP_cool]; exact stepCD_aa s cd
  | _ =>
    refine .same fun m _ => ?_
    simp only [stepLP] <;> (repeat' split) <;>
      (try simp only [dbgInUse_nodes, setFault_nodes, incObj_nodes, decObj_nodes]) <;>
      first | rfl | exact setNode_proj Node.activeAddr _ _ _ _ (fun _ => rfl)

theorem stepPP_aa (cfg : Cfg) (p c : Nat) (s : Shared) (l : Locals) (b : Bool) (pp : PP) :
    AAStep s (stepPP cfg p c s l b pp).1 l pp.lp? := by
  cases pp with
  | hload x ld => rw [stepPP_hload]; exact stepLP_aa cfg c s l b ld
  | hinto x r gi => rw [stepPP_hinto]; exact stepGI_aa s gi
  | get ng => rw [stepPP_get]; exact stepNG_aa s b ng
  | _ =>
    refine .same fun m _ => ?_
    simp only [stepPP] <;> (repeat' split) <;>
      (try simp only [dbgInUse_nodes, setFault_nodes, incObj_nodes, decObj_nodes]) <;>
      first | rfl | exact setNode_proj Node.activeAddr _ _ _ _ (fun _ => rfl)

theorem stepCP_aa (cfg : Cfg) (c cur new : Nat) (s : Shared) (l : Locals) (b : Bool) (cp : CP) :
    AAStep s (stepCP cfg c cur new s l b cp).1 l cp.lp? := by
  cases cp with
  | load ld => rw [stepCP_load]; exact stepLP_aa cfg c s l b ld
  | pay old pp => rw [stepCP_pay]; exact stepPP_aa cfg old.ptr c s l b pp
  | dropOld gd => rw [stepCP_dropOld]; exact stepGD_aa s gd
  | _ =>
    refine .same fun m _ => ?_
    simp only [stepCP] <;> (repeat' split) <;> (try simp only [setFault_nodes, decObj_nodes]) <;> rfl

theorem stepRP_aa (cfg : Cfg) (c : Nat) (s : Shared) (l : Locals) (b : Bool) (tries : Nat) (rp : RP) :
    AAStep s (stepRP cfg c s l b tries rp).1 l rp.lp? := by
  cases rp with
  | load ld => rw [stepRP_load]; exact stepLP_aa cfg c s l b ld
  | cas cur x cp => rw [stepRP_cas]; exact stepCP_aa cfg c cur.ptr x s l b cp
  | intoPrev cur prev gi => rw [stepRP_intoPrev]; exact stepGI_aa s gi
  | dropCur res gd => rw [stepRP_dropCur]; exact stepGD_aa s gd
  | dropCurLoop prev gd => rw [stepRP_dropCurLoop]; exact stepGD_aa s gd
  | attempt cur => refine .same fun m _ => ?_; simp only [stepRP]; split <;> simp only [alloc, setFault_nodes]
  | done r => exact .same fun m _ => rfl

theorem OpSt.core_aa (cfg : Cfg) (s : Shared) (l : Locals) (b : Bool) (op : OpSt) :
    AAStep s (op.core cfg s l b) l op.lp? := by
  cases op with
  | load c _ ld | loadFull c _ ld => exact stepLP_aa cfg c s l b ld
  | loadFullInto _ _ _ gi | ginto _ _ gi => exact stepGI_aa s gi
  | dropg gd => exact stepGD_aa s gd
  | exitCool cd => exact stepCD_aa s cd
  | swapPay c _ old _ pp => exact stepPP_aa cfg old c s l b pp
  | cinto c _ p pp | dropc c p pp => exact stepPP_aa cfg p c s l b pp
  | cas c _ _ curPtr new _ cp => exact stepCP_aa cfg c curPtr new s l b cp
  | rcu c _ tries rp => exact stepRP_aa cfg c s l b tries rp
  | cloneh _ _ a => exact .same fun m _ => by rw [OpSt.core, incObj_nodes]
  | droph a | swapDrop _ a | dropcDec _ a => exact .same fun m _ => by rw [OpSt.core, decObj_nodes]
  | _ => exact .same fun m _ => rfl

theorem microStep_aa (st : State) (t : Nat) (b : Bool) :
    AAStep st.sh (microStep st t b).1.sh (st.th t).loc (st.th t).op.lp? := by
  by_cases hi : (st.th t).op = .idle
  · refine .same fun m _ => ?_
    simp only [microStep, hi]; split
    · rfl
    · rw [beginOp_nodes]
  · intro m hm
    rw [(microStep_core st t b hi).nodes]
    exact OpSt.core_aa st.cfg st.sh (st.th t).loc b (st.th t).op m hm

/-- the reader has announced its storage and is still inside (or about to open) its window -/
def LP.announced : LP → Bool
  | .f2 _ | .f3 _ | .chDbg _ _ | .f4 _ _ | .f5 _ _ => true
  | _ => false

/-- **the announced address is the reader's storage** -/
def ActAddr (st : State) : Prop :=
  ∀ o n c lp, (st.th o).op.lp? = some lp → lp.announced = true → (st.th o).loc.node = some n →
    (st.th o).op.cell? = some c → (st.sh.nodes n).activeAddr = some c

theorem ActAddr.initial (cfg : Cfg) (progs : Nat → List (String × Op)) : ActAddr (State.initial cfg progs) :=
  fun _ _ _ _ hl => nomatch hl

theorem stepLP_announced (cfg : Cfg) (c : Nat) (s : Shared) (l : Locals) (b : Bool) (lp : LP)
    (h : (stepLP cfg c s l b lp).2.2.1.announced = true) :
    (stepLP cfg c s l b lp).2.1.node = l.node ∧
      ((lp.announced = true) ∨ (lp = .f1 ∧ ((stepLP cfg c s l b lp).1.nodes (l.node.getD 0)).activeAddr = some c)) := by
  cases lp with
  | f1 => exact ⟨rfl, Or.inr ⟨rfl, by simp only [stepLP, setNode_nodes_same]⟩⟩
  | f2 g => exact ⟨rfl, Or.inl rfl⟩
  | f4 g cand => exact ⟨rfl, Or.inl rfl⟩
  | f3 g => simp only [stepLP]; split <;> exact ⟨rfl, Or.inl rfl⟩
  | chDbg g cand => simp only [stepLP]; split <;> exact ⟨rfl, Or.inl rfl⟩
  | _ => simp only [stepLP] at h <;> (repeat' split at h) <;> cases h

theorem ActAddr.step {st : State} (h : ActAddr st) (ho : OwnInv st) (hn : NodeInv st) (t : Nat) (b : Bool) :
    ActAddr (microStep st t b).1 := by
  intro o n c lp' hlp hann hnode hcell
  have haa := microStep_aa st t b
  by_cases e : o = t
  · subst e
    rcases microStep_lp_back st o b lp' hlp with ⟨lp, c0, h1, h2, rfl⟩ | rfl
    · obtain ⟨c1, hc1, hnodes, _, hloc, _⟩ := microStep_lp st o b lp h1
      obtain rfl : c1 = c0 := Option.some.inj (hc1.symm.trans h2)
      obtain ⟨hl, hor⟩ := stepLP_announced st.cfg c1 st.sh (st.th o).loc b lp hann
      have hnode0 : (st.th o).loc.node = some n := by rw [hloc, hl] at hnode; exact hnode
      obtain rfl : c = c1 := by
        rcases microStep_cellq2 st o b c hcell with ⟨h4, _⟩ | ⟨h4, _⟩
        · exact Option.some.inj (h4.symm.trans h2)
        · rw [h4] at h1; cases h1
      rcases hor with hprev | ⟨_, hset⟩
      · rcases haa n (OpSt.okN_lt (hn.th o) n hnode0) with h5 | ⟨h5, _⟩
        · rw [h5]; exact h o n c lp h1 hprev hnode0 h2
        · rw [h1] at h5; cases h5; cases hprev
      · rw [hnodes]; rw [hnode0] at hset; exact hset
    · cases hann
  · rw [microStep_th_other st t b e] at hlp hnode hcell
    rcases haa n (OpSt.okN_lt (hn.th o) n hnode) with h5 | ⟨h5, h6⟩
    · rw [h5]; exact h o n c lp' hlp hann hnode hcell
    · -- the stepping thread would own the same node
      exfalso
      obtain ⟨n', hn'⟩ := Option.isSome_iff_exists.mp ((OpSt.okN_lp (hn.th t) h5).2.1 rfl)
      obtain rfl : n' = n := by rw [hn'] at h6; exact h6
      have o1 : ownsT (st.th t) = some n' := by rw [ownsT_of_lp _ _ h5]; exact hn'
      have o2 : ownsT (st.th o) = some n' := by
        rw [ownsT_of_lp _ _ hlp]
        cases lp' <;> first | exact hnode | cases hann
      exact ho.excl o t n' e o2 o1

theorem ActAddr.reachable {st : State} (h : Reachable st) : ActAddr st :=
  h.induct ActAddr.initial fun _ t b hr ha => ha.step (OwnInv.reachable hr) (NodeInv.reachable hr) t b

end M
