import ArcSwapModel.Inv.Touch

/-!
# Null is never counted

Every step that leads to a state about to touch a reference count has checked that the pointer is
not null (`RefCnt::inc`/`dec` are called on non-null pointers only: `Option<Arc<T>>`'s `None` is the
null pointer).  So in every reachable state, `touch = some a` implies `a ≠ 0`.
-/

namespace M
open Consts

theorem GD.ofGuard_touch (g : Guard) (a : Nat) (h : (GD.ofGuard g).touch = some a) : a ≠ 0 := by
  simp only [GD.ofGuard] at h
  (repeat' split at h) <;> first | (cases h; done) | (simp only [GD.touch, Option.some.injEq] at h; subst h; assumption)

theorem GI.ofGuard_touch (g : Guard) (a : Nat) (h : (GI.ofGuard g).touch = some a) : a ≠ 0 := by
  simp only [GI.ofGuard] at h
  (repeat' split at h) <;> first | (cases h; done) | (simp only [GI.touch, Option.some.injEq] at h; subst h; assumption)

theorem stepGD_touch_nn (s : Shared) (gd : GD) (a : Nat) (h : (stepGD s gd).2.1.touch = some a) : a ≠ 0 := by
  cases gd <;> simp only [stepGD] at h <;> (repeat' split at h) <;>
    first | (cases h; done) | (simp only [GD.touch, Option.some.injEq] at h; subst h; assumption)

theorem stepGI_touch_nn (s : Shared) (gi : GI) (a : Nat) (h : (stepGI s gi).2.1.touch = some a) : a ≠ 0 := by
  cases gi <;> simp only [stepGI] at h <;> (repeat' split at h) <;>
    first | (cases h; done) | (simp only [GI.touch, Option.some.injEq] at h; subst h; assumption)

theorem stepLP_touch_nn (cfg : Cfg) (c : Nat) (s : Shared) (l : Locals) (b : Bool) (lp : LP) (a : Nat)
    (h : (stepLP cfg c s l b lp).2.2.1.touch = some a) : a ≠ 0 := by
  cases lp <;> simp only [stepLP] at h <;> (repeat' split at h) <;>
    first | (cases h; done) | (simp only [LP.touch, Option.some.injEq] at h; subst h; assumption)

/-! The host's next state touches what the inner machine's next state touches, or — when that is
done — what the guard it returned is promoted or dropped through: never null. -/

theorem PP.afterGet_touch {p a : Nat} {ng : NG} (h : (PP.afterGet p ng).touch p = some a) : a ≠ 0 := by
  cases ng <;> first | (cases h; done) | skip
  simp only [PP.afterGet] at h; split at h
  · cases h
  · simp only [PP.touch, Option.some.injEq] at h; subst h; assumption

theorem PP.afterLoad_touch {x : HL} {ld : LP} {p a : Nat} (h : (PP.afterLoad x ld).touch p = some a)
    (ih : ld.touch = some a → a ≠ 0) : a ≠ 0 := by
  cases ld <;> first | exact ih h | skip
  simp only [PP.afterLoad] at h; split at h
  · cases h
  · exact GI.ofGuard_touch _ a h

theorem PP.afterInto_touch {x : HL} {r : Nat} {gi : GI} {p a : Nat} (h : (PP.afterInto x r gi).touch p = some a)
    (ih : gi.touch = some a → a ≠ 0) : a ≠ 0 := by
  cases gi <;> first | exact ih h | cases h

theorem PP.dispatch_touch (p : Nat) (h : HL) : (PP.dispatch h).touch p = none := by
  simp only [PP.dispatch]; split <;> rfl
theorem PP.nextSlot_touch (p n j : Nat) : (PP.nextSlot n j).touch p = none := by
  simp only [PP.nextSlot]; split <;> rfl

theorem stepPP_touch_nn (cfg : Cfg) (p c : Nat) (s : Shared) (l : Locals) (b : Bool) (pp : PP) (a : Nat)
    (h : (stepPP cfg p c s l b pp).2.2.1.touch p = some a) : a ≠ 0 := by
  cases pp with
  | get ng => rw [stepPP_get] at h; exact PP.afterGet_touch h
  | hload x ld => rw [stepPP_hload] at h; exact PP.afterLoad_touch h (stepLP_touch_nn cfg c s l b ld a)
  | hinto x r gi => rw [stepPP_hinto] at h; exact PP.afterInto_touch h (stepGI_touch_nn s gi a)
  | _ =>
    simp only [stepPP] at h <;> (repeat' split at h) <;>
      first
        | (cases h; done)
        | (rw [PP.dispatch_touch] at h; cases h; done)
        | (rw [PP.nextSlot_touch] at h; cases h; done)
        | (simp only [PP.touch, Option.some.injEq] at h; subst h; assumption)

theorem CP.afterLoad_touch {cur new : Nat} {ld : LP} {a : Nat} (h : (CP.afterLoad cur new ld).touch new = some a)
    (ih : ld.touch = some a → a ≠ 0) : a ≠ 0 := by
  cases ld <;> first | exact ih h | skip
  simp only [CP.afterLoad] at h; (repeat' split at h) <;>
    first | (cases h; done) | (simp only [CP.touch, Option.some.injEq] at h; subst h; assumption)

theorem CP.afterPay_touch {old : Guard} {pp : PP} {new a : Nat} (h : (CP.afterPay old pp).touch new = some a)
    (ih : pp.touch old.ptr = some a → a ≠ 0) : a ≠ 0 := by
  cases pp <;> first | exact ih h | skip
  simp only [CP.afterPay] at h; split at h
  · cases h
  · simp only [CP.touch, Option.some.injEq] at h; subst h; assumption

theorem CP.afterDropOld_touch {gd : GD} {new a : Nat} (h : (CP.afterDropOld gd).touch new = some a)
    (ih : gd.touch = some a → a ≠ 0) : a ≠ 0 := by
  cases gd <;> first | exact ih h | cases h

theorem stepCP_touch_nn (cfg : Cfg) (c cur new : Nat) (s : Shared) (l : Locals) (b : Bool) (cp : CP) (a : Nat)
    (h : (stepCP cfg c cur new s l b cp).2.2.1.touch new = some a) : a ≠ 0 := by
  cases cp with
  | load ld => rw [stepCP_load] at h; exact CP.afterLoad_touch h (stepLP_touch_nn cfg c s l b ld a)
  | pay old pp => rw [stepCP_pay] at h; exact CP.afterPay_touch h (stepPP_touch_nn cfg old.ptr c s l b pp a)
  | dropOld gd => rw [stepCP_dropOld] at h; exact CP.afterDropOld_touch h (stepGD_touch_nn s gd a)
  | cx old =>
    simp only [stepCP] at h
    (repeat' split at h) <;> first | (cases h; done) | exact GD.ofGuard_touch _ a h
  | _ => simp only [stepCP] at h <;> cases h

theorem RP.afterLoad_touch {ld : LP} {a : Nat} (h : (RP.afterLoad ld).touch = some a)
    (ih : ld.touch = some a → a ≠ 0) : a ≠ 0 := by
  cases ld <;> first | exact ih h | cases h

theorem RP.afterCas_touch {cur : Guard} {x : Nat} {cp : CP} {a : Nat} (h : (RP.afterCas cur x cp).touch = some a)
    (ih : cp.touch x = some a → a ≠ 0) : a ≠ 0 := by
  cases cp <;> first | exact ih h | skip
  simp only [RP.afterCas] at h
  (repeat' split at h) <;> first | (cases h; done) | exact GD.ofGuard_touch _ a h | exact GI.ofGuard_touch _ a h

theorem RP.afterIntoPrev_touch {cur prev : Guard} {gi : GI} {a : Nat}
    (h : (RP.afterIntoPrev cur prev gi).touch = some a) (ih : gi.touch = some a → a ≠ 0) : a ≠ 0 := by
  cases gi <;> first | exact ih h | skip
  simp only [RP.afterIntoPrev] at h; split at h
  · cases h
  · exact GD.ofGuard_touch _ a h

theorem RP.afterDropCur_touch {res : Nat} {gd : GD} {a : Nat} (h : (RP.afterDropCur res gd).touch = some a)
    (ih : gd.touch = some a → a ≠ 0) : a ≠ 0 := by
  cases gd <;> first | exact ih h | cases h

theorem RP.afterDropCurLoop_touch {prev : Guard} {gd : GD} {a : Nat}
    (h : (RP.afterDropCurLoop prev gd).touch = some a) (ih : gd.touch = some a → a ≠ 0) : a ≠ 0 := by
  cases gd <;> first | exact ih h | cases h

theorem stepRP_touch_nn (cfg : Cfg) (c : Nat) (s : Shared) (l : Locals) (b : Bool) (tries : Nat) (rp : RP) (a : Nat)
    (h : (stepRP cfg c s l b tries rp).2.2.1.touch = some a) : a ≠ 0 := by
  cases rp with
  | load ld => rw [stepRP_load] at h; exact RP.afterLoad_touch h (stepLP_touch_nn cfg c s l b ld a)
  | cas cur x cp => rw [stepRP_cas] at h; exact RP.afterCas_touch h (stepCP_touch_nn cfg c cur.ptr x s l b cp a)
  | intoPrev cur prev gi => rw [stepRP_intoPrev] at h; exact RP.afterIntoPrev_touch h (stepGI_touch_nn s gi a)
  | dropCur res gd => rw [stepRP_dropCur] at h; exact RP.afterDropCur_touch h (stepGD_touch_nn s gd a)
  | dropCurLoop prev gd => rw [stepRP_dropCurLoop] at h; exact RP.afterDropCurLoop_touch h (stepGD_touch_nn s gd a)
  | attempt cur => simp only [stepRP] at h; cases h
  | done r => simp only [stepRP] at h; cases h

/-- An operation starts in a state that touches nothing, except the drop and the promotion of a
    guard, and the clone and the drop of a handle, which is checked for null here. -/
theorem beginOp_touch_nn (st : State) (t : Nat) (o : Op) (a : Nat)
    (h : ((beginOp st t o).1.th t).op.touch = some a) : a ≠ 0 := by
  cases o <;> simp only [beginOp] at h <;> (repeat' split at h) <;> simp only [upd_same] at h <;>
    first
      | (cases h; done)
      | exact GD.ofGuard_touch _ a h
      | exact GI.ofGuard_touch _ a h
      | (simp only [OpSt.touch, Option.some.injEq] at h; subst h; assumption)

theorem OpSt.next_touch_nn (cfg : Cfg) (s : Shared) (l : Locals) (b : Bool) (op : OpSt) (a : Nat)
    (h : (op.next cfg s l b).1.touch = some a) : a ≠ 0 := by
  cases op with
  | load c g ld =>
    refine stepLP_touch_nn cfg c s l b ld a ?_
    revert h; simp only [OpSt.next]; generalize (stepLP cfg c s l b ld).2.2.1 = x; cases x <;> exact id
  | loadFull c x ld =>
    have ih := stepLP_touch_nn cfg c s l b ld a
    revert h ih; simp only [OpSt.next]; generalize (stepLP cfg c s l b ld).2.2.1 = y
    cases y <;> intro h ih <;> first | exact ih h | skip
    rw [apply_ite OpSt.touch] at h; split at h
    · cases h
    · exact GI.ofGuard_touch _ a h
  | loadFullInto c x r gi | ginto x r gi =>
    refine stepGI_touch_nn s gi a ?_
    revert h; simp only [OpSt.next]; generalize (stepGI s gi).2.1 = y; cases y <;> exact id
  | dropg gd =>
    refine stepGD_touch_nn s gd a ?_
    revert h; simp only [OpSt.next]; generalize (stepGD s gd).2.1 = y; cases y <;> exact id
  | swapPay c out old isStore pp =>
    have ih := stepPP_touch_nn cfg old c s l b pp a
    revert h ih; simp only [OpSt.next]; generalize (stepPP cfg old c s l b pp).2.2.1 = y
    cases y <;> intro h ih <;> first | exact ih h | skip
    simp only [apply_ite OpSt.touch] at h
    (repeat' split at h) <;>
      first | (cases h; done) | (simp only [OpSt.touch, Option.some.injEq] at h; subst h; assumption)
  | cinto c x p pp =>
    refine stepPP_touch_nn cfg p c s l b pp a ?_
    revert h; simp only [OpSt.next]; generalize (stepPP cfg p c s l b pp).2.2.1 = y; cases y <;> exact id
  | dropc c p pp =>
    have ih := stepPP_touch_nn cfg p c s l b pp a
    revert h ih; simp only [OpSt.next]; generalize (stepPP cfg p c s l b pp).2.2.1 = y
    cases y <;> intro h ih <;> first | exact ih h | skip
    rw [apply_ite OpSt.touch] at h; split at h
    · cases h
    · simp only [OpSt.touch, Option.some.injEq] at h; subst h; assumption
  | cas c cur keep curPtr new g cp =>
    refine stepCP_touch_nn cfg c curPtr new s l b cp a ?_
    revert h; simp only [OpSt.next]; generalize (stepCP cfg c curPtr new s l b cp).2.2.1 = y; cases y <;> exact id
  | rcu c out tries rp =>
    refine stepRP_touch_nn cfg c s l b tries rp a ?_
    revert h; simp only [OpSt.next]; generalize (stepRP cfg c s l b tries rp).2.2.1 = y; cases y <;> exact id
  | _ => simp only [OpSt.next] at h <;> (try split at h) <;> cases h

theorem microStep_touch_nn (st : State) (t : Nat) (b : Bool) (a : Nat)
    (h : ((microStep st t b).1.th t).op.touch = some a) : a ≠ 0 := by
  by_cases hi : (st.th t).op = .idle
  · cases hp : (st.th t).prog with
    | nil => rw [microStep_idle_nil st t b hi hp] at h; simp only [upd_same] at h; split at h <;> cases h
    | cons x rest => rw [microStep_idle_cons st t b hi hp] at h; exact beginOp_touch_nn _ t _ a h
  · rw [(microStep_next st t b hi).1] at h; exact OpSt.next_touch_nn _ _ _ b _ a h

theorem touch_nonnull {st : State} (h : Reachable st) (t a : Nat) (ht : (st.th t).op.touch = some a) : a ≠ 0 := by
  revert t a
  refine h.induct (P := fun st => ∀ t a, (st.th t).op.touch = some a → a ≠ 0) (fun _ _ _ _ h => by cases h) ?_
  intro st u b _ ih t a h
  by_cases e : t = u
  · subst e; exact microStep_touch_nn st t b a h
  · rw [microStep_th_other st u b e] at h; exact ih t a h

end M
