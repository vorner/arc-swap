import ArcSwapModel.Inv.HazH1

/-!
# The candidate of the fallback path is protected while its reader is inside the window

`CandInv`: while a reader is between the read of its candidate (`f3`) and the end of its window
(`f5`), the candidate is still the content of the container it was read from, or a writer that has
taken it out of *that* container is walking the list and has not got past the help on the reader's
node (`PP.preHelp`).  Along executions in which no hand-over succeeds (`NoEnv`), such a writer
cannot get past: inside the window the control word is the reader's generation and the announced
address is the writer's container, so the writer helps, and its hand-over would succeed.
-/

namespace M
open Consts

theorem OpSt.walkC_cell {op : OpSt} {x : Nat × PP} (h : op.walkC? = some x) : ∃ c, op.cell? = some c := by
  cases op <;> first | exact ⟨_, rfl⟩ | cases h

/-- a thread that is walking the list steps that walk, for the container it works on -/
theorem microStep_walkC_fwd2 (st : State) (t : Nat) (b : Bool) (a : Nat) (pp : PP)
    (h : (st.th t).op.walkC? = some (a, pp)) :
    ∃ c, (st.th t).op.cell? = some c ∧
      (microStep st t b).1.sh.nodes = (stepPP st.cfg a c st.sh (st.th t).loc b pp).1.nodes ∧
      ((microStep st t b).1.th t).loc = (stepPP st.cfg a c st.sh (st.th t).loc b pp).2.1 ∧
      (((microStep st t b).1.th t).op.walkC? = some (a, (stepPP st.cfg a c st.sh (st.th t).loc b pp).2.2.1) ∨
        (stepPP st.cfg a c st.sh (st.th t).loc b pp).2.2.1 = .done) := by
  have hcore := microStep_core st t b (fun e => by rw [e] at h; cases h)
  cases hop : (st.th t).op with
  | swapPay c _ _ _ pp0 | cinto c _ _ pp0 | dropc c _ pp0 =>
    rw [hop] at h hcore
    obtain ⟨rfl, rfl⟩ := Prod.mk.inj (Option.some.inj h)
    refine ⟨c, rfl, hcore.nodes, ?_⟩
    simp only [microStep, hop]; split
    · rename_i heq; rw [heq]; exact ⟨by (repeat' split) <;> simp, Or.inr rfl⟩
    · rename_i heq; rw [heq]; exact ⟨by simp, Or.inl (by simp [OpSt.walkC?, OpSt.walk?])⟩
  | cas c cur keep curPtr new g cp =>
    rw [hop] at h hcore
    obtain ⟨h2, h3, h4⟩ := stepCP_walk_fwd st.cfg c curPtr new st.sh (st.th t).loc b cp a pp h
    refine ⟨c, rfl, hcore.nodes.trans (congrArg _ h2), ?_⟩
    rw [← h3]
    simp only [microStep, hop]; split
    · rename_i heq; rw [heq] at h4 ⊢
      exact ⟨by simp, h4.imp (fun h5 => nomatch h5) id⟩
    · rename_i heq; rw [heq] at h4 ⊢
      exact ⟨by simp, h4.imp (fun h5 => by simpa [OpSt.walkC?, OpSt.walk?] using h5) id⟩
  | rcu c out tries rp =>
    rw [hop] at h hcore
    obtain ⟨h2, h3, h4⟩ := stepRP_walk_fwd st.cfg c st.sh (st.th t).loc b tries rp a pp h
    refine ⟨c, rfl, hcore.nodes.trans (congrArg _ h2), ?_⟩
    rw [← h3]
    simp only [microStep, hop]; split
    · rename_i heq; rw [heq] at h4 ⊢
      exact ⟨by simp, h4.imp (fun h5 => nomatch h5) id⟩
    · rename_i heq; rw [heq] at h4 ⊢
      exact ⟨by simp, h4.imp (fun h5 => by simpa [OpSt.walkC?, OpSt.walk?] using h5) id⟩
  | _ => rw [hop] at h; cases h

/-- the candidate of a reader inside its window, with the window's generation -/
def LP.cand? : LP → Option (Nat × Nat)
  | .chDbg g a | .f4 g a | .f5 g a => some (g, a)
  | _ => none

theorem LP.cand_announced {lp : LP} {x : Nat × Nat} (h : lp.cand? = some x) : lp.announced = true := by
  cases lp <;> first | rfl | cases h

theorem LP.cand_win {lp : LP} {g a : Nat} (h : lp.cand? = some (g, a)) : lp.win = some g := by
  cases lp <;> first | (cases h; done) | (simp only [LP.cand?, Option.some.injEq, Prod.mk.injEq] at h; simp [LP.win, h.1])

theorem stepLP_cand (cfg : Cfg) (c : Nat) (s : Shared) (l : Locals) (b : Bool) (lp : LP) (g a : Nat)
    (h : (stepLP cfg c s l b lp).2.2.1.cand? = some (g, a)) :
    (stepLP cfg c s l b lp).2.1.node = l.node ∧ ((lp = .f3 g ∧ s.cells c = some a) ∨ lp.cand? = some (g, a)) := by
  cases lp with
  | f3 g0 =>
    simp only [stepLP] at h ⊢
    split
    · rename_i p hp
      simp only [hp, LP.cand?, Option.some.injEq, Prod.mk.injEq] at h
      obtain ⟨rfl, rfl⟩ := h
      exact ⟨rfl, Or.inl ⟨rfl, hp⟩⟩
    · rename_i hp; simp only [hp] at h; cases h
  | chDbg g0 cand =>
    simp only [stepLP] at h ⊢
    split
    · rename_i hp; simp only [hp] at h; cases h
    · rename_i n hp
      simp only [hp, LP.cand?, Option.some.injEq, Prod.mk.injEq] at h
      exact ⟨rfl, Or.inr (by rw [LP.cand?, h.1, h.2])⟩
  | f4 g0 cand =>
    simp only [stepLP, LP.cand?, Option.some.injEq, Prod.mk.injEq] at h ⊢
    exact ⟨trivial, Or.inr h⟩
  | _ => simp only [stepLP] at h <;> (repeat' split at h) <;> cases h

def CandInv (st : State) (L : List Nat) : Prop :=
  ∀ o n c g a lp, (st.th o).op.lp? = some lp → lp.cand? = some (g, a) → (st.th o).loc.node = some n →
    (st.th o).op.cell? = some c →
    st.sh.cells c = some a ∨
      ((st.th o).op.cons = false ∧ ∃ w pp, (st.th w).op.walkC? = some (a, pp) ∧ (st.th w).op.cell? = some c ∧
        pp.preHelp L n g)

theorem CandInv.initial (cfg : Cfg) (progs : Nat → List (String × Op)) : CandInv (State.initial cfg progs) [] :=
  fun o n c g a lp h => by simp [State.initial, OpSt.lp?] at h

/-- **one step keeps the candidates protected**, as long as no hand-over succeeds -/
theorem CandInv.step {N T : Nat} {st : State} {L : List Nat} (h : CandInv st L) (hnl : NamedLinked st L)
    (hw : WalkNodeC st) (hx : ∀ t, (st.th t).op.cxok) (hb : BusyInv N T st)
    (hctl : CtlInv st) (haa : ActAddr st) (hne : NoEnv st.sh)
    (t : Nat) (b : Bool) (hne' : NoEnv (microStep st t b).1.sh) (htame : Tame2 N st t) (pre : List Nat) :
    CandInv (microStep st t b).1 (pre ++ L) := by
  have hoth := fun u (e : u ≠ t) => microStep_th_other st t b e
  -- inside the window, the reader's node is on the list and carries its generation and its container
  have window : ∀ o n c g a lp, (st.th o).op.lp? = some lp → lp.cand? = some (g, a) → (st.th o).loc.node = some n →
      (st.th o).op.cell? = some c →
      n ∈ L ∧ (st.sh.nodes n).control = .gen g ∧ (st.sh.nodes n).activeAddr = some c := by
    intro o n c g a lp hlp hcand hnode hcell
    refine ⟨hnl.linked.node o n hnode, ?_, haa o n c lp hlp (LP.cand_announced hcand) hnode hcell⟩
    rcases hctl.inside o g n (by rw [OpSt.win_lp, hlp]; exact LP.cand_win hcand) hnode with h5 | ⟨j, h5⟩
    · exact h5
    · exact absurd h5 (hne n j)
  -- the stepping thread, if it walks afterwards, works on the container it worked on before
  have cell_after : ∀ c x, (st.th t).op.cell? = some c → ((microStep st t b).1.th t).op.walkC? = some x →
      ((microStep st t b).1.th t).op.cell? = some c := by
    intro c x hc hx
    obtain ⟨c2, hc2⟩ := OpSt.walkC_cell hx
    rcases microStep_cellq2 st t b c2 hc2 with ⟨h4, _⟩ | ⟨h4, _⟩
    · rw [hc] at h4; cases h4; exact hc2
    · rw [h4] at hc; cases hc
  -- a writer that has not got past the help on `n` stays there
  have walker_keep : ∀ n c g a w pp, n ∈ L ∧ (st.sh.nodes n).control = .gen g ∧ (st.sh.nodes n).activeAddr = some c →
      (st.th w).op.walkC? = some (a, pp) → (st.th w).op.cell? = some c → pp.preHelp L n g →
      ∃ w pp', ((microStep st t b).1.th w).op.walkC? = some (a, pp') ∧ ((microStep st t b).1.th w).op.cell? = some c ∧
        pp'.preHelp (pre ++ L) n g := by
    intro n c g a w pp ⟨hnL, hc1, hc2⟩ hw1 hw2 hpre
    by_cases e : w = t
    · subst e
      obtain ⟨c', hc', hnodes, hloc, hor⟩ := microStep_walkC_fwd2 st w b a pp hw1
      obtain rfl : c' = c := Option.some.inj (hc'.symm.trans hw2)
      have hstep := preHelp_step st.cfg a c' st.sh (st.th w).loc b pp L hnl.linked.list.1 n g hnL (hw w a pp hw1) hc1 hc2
        (fun m j => by rw [← hnodes]; exact hne' m j) hpre
      rcases hor with h3 | h3
      · exact ⟨w, _, h3, cell_after c' _ hw2 h3, hstep.prepend pre⟩
      · rw [h3] at hstep; exact absurd hstep (PP.not_preHelp_done L n g)
    · exact ⟨w, pp, by rw [hoth w e]; exact hw1, by rw [hoth w e]; exact hw2, hpre.prepend pre⟩
  intro o n c g a lp' hlp hcand hnode hcell
  by_cases e : o = t
  · subst e
    rcases microStep_lp_back st o b lp' hlp with ⟨lp, c0, h1, h2, rfl⟩ | rfl
    · obtain ⟨c1, hc1, _, hcells, hloc, _⟩ := microStep_lp st o b lp h1
      obtain rfl : c1 = c0 := Option.some.inj (hc1.symm.trans h2)
      obtain ⟨rfl, hcons⟩ : c = c1 ∧ ((microStep st o b).1.th o).op.cons = (st.th o).op.cons := by
        rcases microStep_cellq2 st o b c hcell with ⟨h4, h5⟩ | ⟨h4, _⟩
        · exact ⟨Option.some.inj (h4.symm.trans h2), h5⟩
        · rw [h4] at h1; cases h1
      obtain ⟨hl, hor⟩ := stepLP_cand st.cfg c st.sh (st.th o).loc b lp g a hcand
      have hcl := (stepLP_frame st.cfg c st.sh (st.th o).loc b lp).1
      have hnode0 : (st.th o).loc.node = some n := by rw [hloc, hl] at hnode; exact hnode
      rcases hor with ⟨_, hq⟩ | hprev
      · left; rw [hcells, hcl]; exact hq
      · rcases h o n c g a lp h1 hprev hnode0 h2 with hq | ⟨hnc, w, pp, hw1, hw2, hpre⟩
        · left; rw [hcells, hcl]; exact hq
        · exact Or.inr ⟨by rw [hcons]; exact hnc, walker_keep n c g a w pp (window o n c g a lp h1 hprev hnode0 h2) hw1 hw2 hpre⟩
    · cases hcand
  · rw [hoth o e] at hlp hnode hcell ⊢
    rcases h o n c g a lp' hlp hcand hnode hcell with hq | ⟨hnc, w, pp, hw1, hw2, hpre⟩
    · by_cases hq' : (microStep st t b).1.sh.cells c = some a
      · exact Or.inl hq'
      · right
        -- the stepping thread wrote the container
        have hnidle : (st.th t).op ≠ .idle := by
          intro hidle
          apply hq'
          rw [microStep_cells_other st t b c (by rw [hidle]; intro x; cases x) (fun _ txt x rest hp => by
            have := (htame hidle txt _ rest hp).2 c x rfl
            rw [hq] at this; cases this)]
          exact hq
        have hct : (st.th t).op.cell? = some c := by
          refine Classical.byContradiction (fun hne2 => hq' ?_)
          rw [microStep_cells_other st t b c hne2 (fun hi' => absurd hi' hnidle)]; exact hq
        -- neither of the two is destroying the container
        have htc : (st.th t).op.cons = false := by
          cases hcb : (st.th t).op.cons with
          | false => rfl
          | true =>
            exfalso
            have htk := hb.taken t c hcb hct
            cases hob : (st.th o).op.cons with
            | false => have := (hb.free o c hcell hob).2.2; rw [htk] at this; cases this
            | true => exact e (hb.uniq t o c hcb hob hct hcell).symm
        have hoc : (st.th o).op.cons = false := by
          cases hob : (st.th o).op.cons with
          | false => rfl
          | true =>
            have := (hb.free t c hct htc).2.2; rw [hb.taken o c hob hcell] at this; cases this
        rcases microStep_cells (N := N) st t b (hx t) (fun e' => absurd e' hnidle) htc c a hq with h1 | ⟨h1, _⟩
        · exact absurd h1 hq'
        · have h1' := OpSt.walkC_of_walk h1
          exact ⟨hoc, t, .start, h1', cell_after c _ hct h1', PP.preHelp_start _ n g⟩
    · exact Or.inr ⟨hnc, walker_keep n c g a w pp (window o n c g a lp' hlp hcand hnode hcell) hw1 hw2 hpre⟩

end M
